/-
C20 (T20.3): the convex-combination certificate of a minimal enclosing ball, in the coordinates of the model, over any ordered
commutative ring (`certificate_list`), and soundness of the certificate checker `MEB.checkCert` over ℚ.  The driver reports an
exact minimal ball only after this checker has accepted it.
-/
import MVoro.Model.Sphere
import MVoro.Proofs.Vec3
import Mathlib.Tactic.Ring
import Mathlib.Tactic.Linarith
import Mathlib.Tactic.Positivity
import Mathlib.Algebra.Order.Field.Rat
import Mathlib.Algebra.BigOperators.Ring.List
namespace MVoro.MEBProofs
open MVoro MVoro.MEB

theorem norm2_sub_def (a b : Q3) :
    V3.norm2 (a - b) = (a.x - b.x) * (a.x - b.x) + (a.y - b.y) * (a.y - b.y) + (a.z - b.z) * (a.z - b.z) := rfl

section
variable {K : Type} [CommRing K] [LinearOrder K] [IsStrictOrderedRing K] {ι : Type*}

omit [LinearOrder K] [IsStrictOrderedRing K] in
/-- split at `c`; no hypothesis on the weights -/
theorem weighted_split (l : List ι) (lam : ι → K) (p : ι → V3 K) (c c' : V3 K) :
    (l.map fun i => lam i * V3.norm2 (p i - c')).sum =
      (l.map fun i => lam i * V3.norm2 (p i - c)).sum
      + 2 * (((l.map fun i => lam i * (p i).x).sum - (l.map lam).sum * c.x) * (c.x - c'.x)
           + ((l.map fun i => lam i * (p i).y).sum - (l.map lam).sum * c.y) * (c.y - c'.y)
           + ((l.map fun i => lam i * (p i).z).sum - (l.map lam).sum * c.z) * (c.z - c'.z))
      + (l.map lam).sum * V3.norm2 (c - c') := by
  induction l with
  | nil => simp
  | cons s rest ih =>
    simp only [List.map_cons, List.sum_cons]
    rw [ih]
    simp only [V3.norm2_sub_def]
    ring

/-- the certificate, for squared radii; the checker over `ℚ` below and `SphereProofs.certificate_sq_V3` over `ℝ` are instances -/
theorem certificate_list (l : List ι) (lam : ι → K) (p : ι → V3 K) (c : V3 K) (ρ : K)
    (hlam : ∀ i ∈ l, 0 ≤ lam i) (hsum : (l.map lam).sum = 1)
    (hcx : (l.map fun i => lam i * (p i).x).sum = c.x) (hcy : (l.map fun i => lam i * (p i).y).sum = c.y)
    (hcz : (l.map fun i => lam i * (p i).z).sum = c.z)
    (hr : ∀ i ∈ l, V3.norm2 (p i - c) = ρ) (c' : V3 K) (ρ' : K) (hcont : ∀ i ∈ l, V3.norm2 (p i - c') ≤ ρ') :
    ρ + V3.norm2 (c - c') ≤ ρ' := by
  -- `Σ λ_i |p_i - c'|² ≤ ρ'`, and split at `c` the left side is `ρ + 0 + |c - c'|²`
  have hle := List.sum_le_sum fun i hi => mul_le_mul_of_nonneg_left (hcont i hi) (hlam i hi)
  rw [weighted_split l lam p c c', List.map_congr_left fun i hi => congrArg (lam i * ·) (hr i hi), List.sum_map_mul_right,
    List.sum_map_mul_right, hsum, hcx, hcy, hcz] at hle
  simpa only [one_mul, sub_self, zero_mul, add_zero, mul_zero] using hle

end

theorem checkCert_unfold (pts : Array Q3) (c : Q3) (r2 : Rat) (supp : List (Nat × Rat))
    (h : checkCert pts c r2 supp = true) :
    (∀ i (hi : i < pts.size), V3.norm2 (pts[i] - c) ≤ r2) ∧
    (∀ s ∈ supp, s.1 < pts.size ∧ 0 ≤ s.2 ∧ V3.norm2 (pts[s.1]! - c) = r2) ∧
    (supp.map (·.2)).sum = 1 ∧
    (supp.map (fun s => s.2 * (pts[s.1]!).x)).sum = c.x ∧
    (supp.map (fun s => s.2 * (pts[s.1]!).y)).sum = c.y ∧
    (supp.map (fun s => s.2 * (pts[s.1]!).z)).sum = c.z := by
  simp only [checkCert, Bool.and_eq_true, decide_eq_true_eq, Array.all_eq_true, List.all_eq_true] at h
  obtain ⟨⟨⟨⟨⟨h1, h2⟩, h3⟩, h4⟩, h5⟩, h6⟩ := h
  exact ⟨fun i hi => h1 i hi, fun s hs => ⟨(h2 s hs).1.1, (h2 s hs).1.2, (h2 s hs).2⟩, h3, h4, h5, h6⟩

/-- T20.3: a certified ball contains all points and no enclosing ball is smaller -/
theorem checkCert_sound (pts : Array Q3) (c : Q3) (r2 : Rat) (supp : List (Nat × Rat))
    (h : checkCert pts c r2 supp = true) :
    (∀ i (hi : i < pts.size), V3.norm2 (pts[i] - c) ≤ r2) ∧
    ∀ (c' : Q3) (R2 : Rat), (∀ i (hi : i < pts.size), V3.norm2 (pts[i] - c') ≤ R2) → r2 ≤ R2 := by
  obtain ⟨hin, hsupp, hsum, hx, hy, hz⟩ := checkCert_unfold pts c r2 supp h
  refine ⟨hin, fun c' R2 hR => ?_⟩
  have := certificate_list supp (·.2) (fun s => pts[s.1]!) c r2 (fun s hs => (hsupp s hs).2.1) hsum hx hy hz
    (fun s hs => (hsupp s hs).2.2) c' R2 fun s hs => by
      simpa [getElem!_pos, (hsupp s hs).1] using hR s.1 (hsupp s hs).1
  linarith [V3.norm2_nonneg (c - c')]

/-- the diameter ball of two points passes the checker -/
example : checkCert #[⟨0, 0, 0⟩, ⟨2, 0, 0⟩, ⟨1, 1/2, 0⟩] ⟨1, 0, 0⟩ 1 [(0, 1/2), (1, 1/2)] = true := by decide +kernel

end MVoro.MEBProofs
