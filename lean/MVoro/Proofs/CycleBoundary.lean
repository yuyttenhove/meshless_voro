/-
Combinatorics of `compute_boundary` / `SimpleCycle::try_extend` (src/simple_cycle.rs, src/voronoi/convex_cell.rs:364-449).

The cycle is a successor function `succ : Nat → Nat` (`succ x = x`: `x` is not on it); `triSucc`, `ins`, `del` are `init` and
the two cases of one rotation of `try_extend`.  `Inv succ D`: the proper edges of `succ` are the boundary `bdry D` of the triples
consumed so far, and `succ` is injective.
A: one successful `try_extend` keeps `Inv`.  B: so a successful run on `R` ends with `bdry R`, whatever the storage order and the
rotations.  C: the clipped triple list is closed again.  D: the side condition of A holds by itself when no non-empty part of `R`
is closed, because the cycle is a single cycle (`Conn`).  That the array `Cycle` implements these operations and that the
executable `Clip.computeBoundary` performs such a run is `Proofs/CycleModel`.
Trap: the step that closes the surface (case 2 with `succ ti = tk`) has to be excluded, `step_del_closing_false`: the code leaves
a 2-cycle where the boundary is empty (the tetrahedron at the end of `CycleModel`).
-/
import MVoro.Model.Clip
import Mathlib.Data.List.Nodup
import Mathlib.Data.List.Pairwise
import Mathlib.Data.List.Flatten
import Mathlib.Data.List.Dedup
import Batteries.Data.List.Perm
import Mathlib.Logic.Function.Iterate
import Mathlib.Logic.Relation

namespace MVoro.CycleBoundary
open Relation (ReflTransGen)

def edgesOf (T : List Dual) : List (Nat × Nat) := T.flatMap Dual.edges

def Closed (T : List Dual) : Prop :=
  (edgesOf T).Nodup ∧ ∀ e ∈ edgesOf T, e.swap ∈ edgesOf T

def bdry (R : List Dual) : List (Nat × Nat) :=
  (edgesOf R).filter (fun e => decide (e.swap ∉ edgesOf R))

def CInv (succ : Nat → Nat) (D : List Dual) : Prop :=
  ∀ x y, (succ x = y ∧ x ≠ y) ↔ (x, y) ∈ bdry D

def upd (f : Nat → Nat) (i v : Nat) : Nat → Nat := fun x => if x = i then v else f x

def triSucc (a b c : Nat) : Nat → Nat := upd (upd (upd id a b) b c) c a

/-- guard of case 1 of `try_extend` for the rotation `(ti,tj,tk)` -/
def Cond1 (succ : Nat → Nat) (ti tj tk : Nat) : Prop :=
  succ ti = ti ∧ succ tj ≠ tj ∧ succ tk ≠ tk ∧ succ tk = tj

/-- guard of case 2 of `try_extend` for the rotation `(ti,tj,tk)` -/
def Cond2 (succ : Nat → Nat) (ti tj tk : Nat) : Prop :=
  succ ti ≠ ti ∧ succ tj ≠ tj ∧ succ tk ≠ tk ∧ succ tk = tj ∧ succ tj = ti

instance (succ : Nat → Nat) (ti tj tk : Nat) : Decidable (Cond1 succ ti tj tk) := by
  unfold Cond1; infer_instance
instance (succ : Nat → Nat) (ti tj tk : Nat) : Decidable (Cond2 succ ti tj tk) := by
  unfold Cond2; infer_instance

/-- effect of case 1: insert `ti` between `tk` and `tj` -/
def ins (succ : Nat → Nat) (ti tj tk : Nat) : Nat → Nat := upd (upd succ tk ti) ti tj

/-- effect of case 2: remove `tj`, `tk → ti` -/
def del (succ : Nat → Nat) (ti tj tk : Nat) : Nat → Nat := upd (upd succ tk ti) tj tj

def aTryRot (succ : Nat → Nat) (ti tj tk : Nat) : Option (Nat → Nat) :=
  if Cond1 succ ti tj tk then some (ins succ ti tj tk)
  else if Cond2 succ ti tj tk then some (del succ ti tj tk)
  else none

def aTryExtend (succ : Nat → Nat) (t : Dual) : Option (Nat → Nat) :=
  match aTryRot succ t.a t.b t.c with
  | some r => some r
  | none =>
    match aTryRot succ t.b t.c t.a with
    | some r => some r
    | none => aTryRot succ t.c t.a t.b

def IsRot (t' t : Dual) : Prop := t' = t ∨ t' = t.rot ∨ t' = t.rot.rot

theorem mem_edges {d : Dual} {e : Nat × Nat} :
    e ∈ d.edges ↔ e = (d.a, d.b) ∨ e = (d.b, d.c) ∨ e = (d.c, d.a) := by
  simp [Dual.edges]

theorem mem_edgesOf {T : List Dual} {e : Nat × Nat} :
    e ∈ edgesOf T ↔ ∃ d ∈ T, e ∈ d.edges := by
  simp [edgesOf, List.mem_flatMap]

theorem edgesOf_cons (t : Dual) (D : List Dual) : edgesOf (t :: D) = t.edges ++ edgesOf D := by
  simp [edgesOf]

theorem mem_bdry {R : List Dual} {e : Nat × Nat} :
    e ∈ bdry R ↔ e ∈ edgesOf R ∧ e.swap ∉ edgesOf R := by
  simp [bdry, List.mem_filter]

theorem mem_edges_rot {d : Dual} {e : Nat × Nat} : e ∈ d.rot.edges ↔ e ∈ d.edges := by
  simp only [mem_edges, Dual.rot]
  exact or_rotate.symm

theorem mem_edges_isRot {t' t : Dual} (h : IsRot t' t) {e : Nat × Nat} :
    e ∈ t'.edges ↔ e ∈ t.edges := by
  rcases h with rfl | rfl | rfl <;> simp [mem_edges_rot]

theorem IsRot.symm {d d' : Dual} (h : IsRot d' d) : IsRot d d' := by
  rcases h with rfl | rfl | rfl
  exacts [.inl rfl, .inr (.inr rfl), .inr (.inl rfl)]

theorem triSucc_apply (a b c x : Nat) :
    triSucc a b c x = if x = c then a else if x = b then c else if x = a then b else x := rfl

theorem ins_apply (f : Nat → Nat) (ti tj tk x : Nat) :
    ins f ti tj tk x = if x = ti then tj else if x = tk then ti else f x := rfl

theorem del_apply (f : Nat → Nat) (ti tj tk x : Nat) :
    del f ti tj tk x = if x = tj then tj else if x = tk then ti else f x := rfl

section
variable {f : Nat → Nat} {a b c ti tj tk x : Nat}

theorem triSucc_fst (hab : a ≠ b) (hca : c ≠ a) : triSucc a b c a = b := by
  rw [triSucc_apply, if_neg hca.symm, if_neg hab, if_pos rfl]

theorem triSucc_snd (hbc : b ≠ c) : triSucc a b c b = c := by
  rw [triSucc_apply, if_neg hbc, if_pos rfl]

theorem triSucc_trd : triSucc a b c c = a := if_pos rfl

theorem triSucc_ne_iff (hca : c ≠ a) :
    triSucc a b c x ≠ x ↔ x = a ∨ x = b ∨ x = c := by
  rw [triSucc_apply]
  grind

theorem Cond1.ne_ki (hc : Cond1 f ti tj tk) : tk ≠ ti := fun e => hc.2.2.1 (e ▸ hc.1)

theorem Cond2.ne_kj (hc : Cond2 f ti tj tk) : tk ≠ tj := fun e => hc.2.2.1 (e ▸ hc.2.2.2.1)

theorem Cond2.ne_ji (hc : Cond2 f ti tj tk) : tj ≠ ti := fun e => hc.2.1 (e ▸ hc.2.2.2.2)

theorem ins_fst : ins f ti tj tk ti = tj := if_pos rfl

theorem ins_trd (h : tk ≠ ti) : ins f ti tj tk tk = ti := by rw [ins_apply, if_neg h, if_pos rfl]

theorem ins_of_ne (hi : x ≠ ti) (hk : x ≠ tk) : ins f ti tj tk x = f x := by
  rw [ins_apply, if_neg hi, if_neg hk]

theorem ins_ne_iff (hc : Cond1 f ti tj tk) : ins f ti tj tk x ≠ x ↔ x = ti ∨ f x ≠ x := by
  obtain ⟨h1, h2, h3, h4⟩ := hc
  rw [ins_apply]
  grind

theorem del_trd (h : tk ≠ tj) : del f ti tj tk tk = ti := by rw [del_apply, if_neg h, if_pos rfl]

theorem del_of_ne (hj : x ≠ tj) (hk : x ≠ tk) : del f ti tj tk x = f x := by
  rw [del_apply, if_neg hj, if_neg hk]

/-- `hik`: when `ti = tk` (a degenerate triple on a 2-cycle) `tk` leaves the cycle as well; `CycleWalk.tryExtend_cw` has `hik`
from the distinctness of the three indices.  `of_del_ne` is the half that holds without it. -/
theorem del_ne_iff (hc : Cond2 f ti tj tk) (hik : ti ≠ tk) : del f ti tj tk x ≠ x ↔ x ≠ tj ∧ f x ≠ x := by
  obtain ⟨h1, h2, h3, h4, h5⟩ := hc
  rw [del_apply]
  grind

theorem of_del_ne (hc : Cond2 f ti tj tk) (h : del f ti tj tk x ≠ x) : x ≠ tj ∧ f x ≠ x := by
  obtain ⟨h1, h2, h3, h4, h5⟩ := hc
  rw [del_apply] at h
  grind

theorem aTryRot_eq_some {f' : Nat → Nat} : aTryRot f ti tj tk = some f' ↔
    Cond1 f ti tj tk ∧ f' = ins f ti tj tk ∨ Cond2 f ti tj tk ∧ f' = del f ti tj tk := by
  have hex : Cond1 f ti tj tk → ¬ Cond2 f ti tj tk := fun h1 h2 => h2.1 h1.1
  unfold aTryRot
  split_ifs with h1 h2
  · simp [h1, hex h1, eq_comm]
  · simp [h1, h2, eq_comm]
  · simp [h1, h2]

end

/-! ## A. The abstract step (T18.2) -/

def Inv (succ : Nat → Nat) (D : List Dual) : Prop := CInv succ D ∧ Function.Injective succ

theorem disjoint_of_nodup_cons {t : Dual} {D : List Dual} (hN : (edgesOf (t :: D)).Nodup) :
    ∀ e, e ∈ t.edges → e ∉ edgesOf D := by
  rw [edgesOf_cons] at hN
  intro e h1 h2
  exact (List.disjoint_of_nodup_append hN) h1 h2

theorem nodup_edgesOf_tail {t : Dual} {D : List Dual} (hN : (edgesOf (t :: D)).Nodup) : (edgesOf D).Nodup :=
  (edgesOf_cons t D ▸ hN).of_append_right

theorem mem_bdry_cons {t : Dual} {D : List Dual} {e : Nat × Nat} :
    e ∈ bdry (t :: D) ↔
      (e ∈ t.edges ∨ e ∈ edgesOf D) ∧ ¬ (e.swap ∈ t.edges ∨ e.swap ∈ edgesOf D) := by
  simp [mem_bdry, edgesOf_cons]

section
variable {succ : Nat → Nat} {t : Dual} {D : List Dual} {ti tj tk : Nat}

/-- the boundary of `t :: D` read off the cycle of `D`: the cycle edges that `t` does not reverse, and the edges of `t` that
reverse no cycle edge -/
theorem mem_bdry_cons_iff (hN : (edgesOf (t :: D)).Nodup)
    (hI : CInv succ D) (x y : Nat) :
    (x, y) ∈ bdry (t :: D) ↔
      (y, x) ∉ t.edges ∧ ((x, y) ∈ t.edges ∧ ¬ (succ y = x ∧ y ≠ x) ∨ succ x = y ∧ x ≠ y) := by
  have h1 := disjoint_of_nodup_cons hN (x, y)
  have h2 := disjoint_of_nodup_cons hN (y, x)
  rw [mem_bdry_cons, hI x y, hI y x, mem_bdry, mem_bdry]
  simp only [Prod.swap]
  grind

/-- insert: `t` cancels the cycle edge `(tk, tj)` with its `(tj, tk)` and contributes `(tk, ti)`, `(ti, tj)`; their reverses are
no edges of `D`, because `ti` is off the cycle -/
theorem step_ins (hN : (edgesOf (t :: D)).Nodup) (hI : CInv succ D) (hinj : Function.Injective succ)
    (ht : ∀ e, e ∈ t.edges ↔ e = (ti, tj) ∨ e = (tj, tk) ∨ e = (tk, ti))
    (hc : Cond1 succ ti tj tk) : CInv (ins succ ti tj tk) (t :: D) := by
  obtain ⟨h1, h2, h3, h4⟩ := hc
  have i1 : ∀ z, succ z = ti → z = ti := fun z hz => hinj (hz.trans h1.symm)
  intro x y
  rw [mem_bdry_cons_iff hN hI, ins_apply]
  simp only [ht, Prod.mk.injEq]
  grind

theorem inj_ins (hinj : Function.Injective succ)
    (hc : Cond1 succ ti tj tk) : Function.Injective (ins succ ti tj tk) := by
  obtain ⟨h1, h2, h3, h4⟩ := hc
  intro x y
  -- `ins` takes the value `succ tk` at `ti` and `succ ti` at `tk`: every coincidence of values is one of `succ`
  have := @hinj x y
  have := @hinj x ti
  have := @hinj x tk
  have := @hinj ti y
  have := @hinj tk y
  simp only [ins_apply]
  grind

/-- delete: `t` cancels the cycle edges `(tk, tj)`, `(tj, ti)` with its `(tj, tk)`, `(ti, tj)` and contributes `(tk, ti)`, which
is a boundary edge unless `(ti, tk)` is on the cycle (`hopen`) -/
theorem step_del (hN : (edgesOf (t :: D)).Nodup) (hI : CInv succ D) (hinj : Function.Injective succ)
    (ht : ∀ e, e ∈ t.edges ↔ e = (ti, tj) ∨ e = (tj, tk) ∨ e = (tk, ti))
    (hc : Cond2 succ ti tj tk) (hopen : succ ti ≠ tk) : CInv (del succ ti tj tk) (t :: D) := by
  obtain ⟨h1, h2, h3, h4, h5⟩ := hc
  have i1 : ∀ z, succ z = ti → z = tj := fun z hz => hinj (hz.trans h5.symm)
  have i2 : ∀ z, succ z = tj → z = tk := fun z hz => hinj (hz.trans h4.symm)
  intro x y
  rw [mem_bdry_cons_iff hN hI, del_apply]
  simp only [ht, Prod.mk.injEq]
  grind

theorem inj_del (hinj : Function.Injective succ)
    (hc : Cond2 succ ti tj tk) : Function.Injective (del succ ti tj tk) := by
  obtain ⟨h1, h2, h3, h4, h5⟩ := hc
  intro x y
  -- `del` takes the value `succ tk` at `tj` and `succ tj` at `tk`
  have := @hinj x y
  have := @hinj x tj
  have := @hinj x tk
  have := @hinj tj y
  have := @hinj tk y
  simp only [del_apply]
  grind

end

/-- `hopen` of `step_del` cannot be dropped.  With `succ ti = tk` the cycle is the triangle `tk → tj → ti → tk` and `t` closes
the surface; the code leaves `tk → ti` on the cycle, but its reverse `(ti, tk)` is an edge of `D`. -/
theorem step_del_closing_false {succ : Nat → Nat} {t : Dual} {D : List Dual} {ti tj tk : Nat}
    (hI : CInv succ D) (hc : Cond2 succ ti tj tk) (hclose : succ ti = tk) :
    ¬ CInv (del succ ti tj tk) (t :: D) := by
  obtain ⟨h1, h2, h3, h4, h5⟩ := hc
  intro hI'
  have hik : ti ≠ tk := by grind
  have a1 : (tk, ti) ∈ bdry (t :: D) := (hI' tk ti).1 ⟨del_trd (Cond2.ne_kj ⟨h1, h2, h3, h4, h5⟩), hik.symm⟩
  have a2 : (ti, tk) ∈ bdry D := (hI ti tk).1 ⟨hclose, hik⟩
  rw [mem_bdry_cons] at a1
  rw [mem_bdry] at a2
  exact a1.2 (Or.inr a2.1)

section
variable {succ : Nat → Nat} {D : List Dual}

theorem CInv.succ_mem (h : CInv succ D) {x : Nat} (hx : succ x ≠ x) :
    (x, succ x) ∈ bdry D := (h x _).1 ⟨rfl, fun e => hx e.symm⟩

theorem CInv.eq_succ (h : CInv succ D) {x y : Nat} (hxy : (x, y) ∈ bdry D) :
    succ x = y ∧ succ x ≠ x :=
  have := (h x y).2 hxy
  ⟨this.1, fun e => this.2 (e.symm.trans this.1)⟩

theorem CInv.mem_fst_bdry (h : CInv succ D) {x : Nat} :
    x ∈ (bdry D).map Prod.fst ↔ succ x ≠ x :=
  List.mem_map.trans ⟨fun ⟨⟨_, _⟩, hab, e⟩ => e ▸ (h.eq_succ hab).2, fun hx => ⟨_, h.succ_mem hx, rfl⟩⟩

theorem Inv.snd_on_cycle (h : Inv succ D) {x y : Nat} (hxy : (x, y) ∈ bdry D) :
    succ y ≠ y := by
  obtain ⟨rfl, hx⟩ := h.1.eq_succ hxy
  exact fun e => hx (h.2 e)

end

/-- `t` does not close the surface -/
def Open (t : Dual) (D : List Dual) : Prop := ∃ e ∈ t.edges, e.swap ∉ edgesOf D

theorem open_iff {succ : Nat → Nat} {t : Dual} {D : List Dual} {ti tj tk : Nat} (hI : CInv succ D)
    (hd : ∀ e, e ∈ t.edges → e ∉ edgesOf D)
    (ht : ∀ e, e ∈ t.edges ↔ e = (ti, tj) ∨ e = (tj, tk) ∨ e = (tk, ti)) :
    Open t D ↔ ¬ ((succ tj = ti ∧ tj ≠ ti) ∧ (succ tk = tj ∧ tk ≠ tj) ∧ (succ ti = tk ∧ ti ≠ tk)) := by
  have key : ∀ x y, (x, y) ∈ t.edges → ((y, x) ∈ edgesOf D ↔ succ y = x ∧ y ≠ x) := fun x y h => by
    rw [hI y x, mem_bdry]
    exact (and_iff_left (hd _ h)).symm
  have : Open t D ↔ ¬ ∀ e ∈ t.edges, e.swap ∈ edgesOf D := by simp only [Open, not_forall, exists_prop]
  rw [this, not_iff_not]
  simp only [ht, forall_eq_or_imp, forall_eq, Prod.swap]
  rw [key ti tj ((ht _).2 (.inl rfl)), key tj tk ((ht _).2 (.inr (.inl rfl))), key tk ti ((ht _).2 (.inr (.inr rfl)))]

/-- **T18.2 (abstract step).**  One successful rotation of `try_extend` on a triangle `t` that does not close the surface
turns the boundary cycle of `D` into that of `t :: D`. -/
theorem step {succ succ' : Nat → Nat} {t t' : Dual} {D : List Dual}
    (hN : (edgesOf (t :: D)).Nodup) (hI : Inv succ D) (hr : IsRot t' t)
    (hopen : Open t D) (h : aTryRot succ t'.a t'.b t'.c = some succ') : Inv succ' (t :: D) := by
  have ht : ∀ e, e ∈ t.edges ↔ e = (t'.a, t'.b) ∨ e = (t'.b, t'.c) ∨ e = (t'.c, t'.a) := fun e => by
    rw [← mem_edges_isRot hr, mem_edges]
  rcases aTryRot_eq_some.1 h with ⟨hc, rfl⟩ | ⟨hc, rfl⟩
  · exact ⟨step_ins hN hI.1 hI.2 ht hc, inj_ins hI.2 hc⟩
  · refine ⟨step_del hN hI.1 hI.2 ht hc fun hclose => ?_, inj_del hI.2 hc⟩
    exact (open_iff hI.1 (disjoint_of_nodup_cons hN) ht).1 hopen
      ⟨⟨hc.2.2.2.2, hc.ne_ji⟩, ⟨hc.2.2.2.1, hc.ne_kj⟩, hclose, fun e => hc.1 (hclose.trans e.symm)⟩

/-- T18.2 for `try_extend` as a whole: whichever of the three rotations fires. -/
theorem step_extend {succ succ' : Nat → Nat} {t : Dual} {D : List Dual}
    (hN : (edgesOf (t :: D)).Nodup) (hI : Inv succ D)
    (hopen : Open t D) (h : aTryExtend succ t = some succ') : Inv succ' (t :: D) := by
  unfold aTryExtend at h
  split at h
  next r h1 => cases h; exact step hN hI (Or.inl rfl) hopen h1
  next =>
    split at h
    next r h2 => cases h; exact step (t' := t.rot) hN hI (Or.inr (Or.inl rfl)) hopen h2
    next => exact step (t' := t.rot.rot) hN hI (Or.inr (Or.inr rfl)) hopen h

theorem edge_unique {T : List Dual} (hT : (edgesOf T).Nodup) {d d' : Dual} {e : Nat × Nat}
    (hd : d ∈ T) (hd' : d' ∈ T) (he : e ∈ d.edges) (he' : e ∈ d'.edges) : d = d' := by
  unfold edgesOf at hT
  rw [List.nodup_flatMap] at hT
  have hsym : Std.Symm (Function.onFun List.Disjoint Dual.edges) :=
    ⟨fun a b h x hb ha => h ha hb⟩
  by_contra hne
  exact hT.2.forall hd hd' hne he he'

theorem nodup_edgesOf_of_subset {T R : List Dual} (hT : (edgesOf T).Nodup) (hR : R.Nodup)
    (hsub : R ⊆ T) : (edgesOf R).Nodup :=
  List.nodup_flatMap.2 ⟨fun x hx => (List.nodup_flatMap.1 hT).1 x (hsub hx),
    hR.imp_of_mem fun ha hb hab _ h1 h2 => hab (edge_unique hT (hsub ha) (hsub hb) h1 h2)⟩

theorem nodup_of_nodup_edgesOf {T : List Dual} (h : (edgesOf T).Nodup) : T.Nodup :=
  (List.nodup_flatMap.1 h).2.imp fun hd e => hd (e ▸ List.mem_cons_self) List.mem_cons_self

theorem not_mem_edgesOf_of_not_mem {T R : List Dual} (hT : (edgesOf T).Nodup) (hR : R ⊆ T) {d : Dual} (hd : d ∈ T)
    (hn : d ∉ R) {e : Nat × Nat} (he : e ∈ d.edges) : e ∉ edgesOf R := fun h => by
  obtain ⟨r, hr, hre⟩ := mem_edgesOf.1 h
  exact hn (edge_unique hT hd (hR hr) he hre ▸ hr)

/-- **T18.2 in the ambient closed surface** (of `Closed T` only the `Nodup` half is used). -/
theorem step_closed {T D : List Dual} {t t' : Dual} {succ succ' : Nat → Nat}
    (hT : Closed T) (hD : D ⊆ T) (hDn : D.Nodup) (htT : t ∈ T) (htD : t ∉ D)
    (hI : Inv succ D) (hr : IsRot t' t) (hopen : Open t D)
    (h : aTryRot succ t'.a t'.b t'.c = some succ') : Inv succ' (t :: D) :=
  step (nodup_edgesOf_of_subset hT.1 (List.nodup_cons.2 ⟨htD, hDn⟩)
    (List.cons_subset.2 ⟨htT, hD⟩)) hI hr hopen h

theorem init_inv {t : Dual} (hab : t.a ≠ t.b) (hbc : t.b ≠ t.c) (hca : t.c ≠ t.a) :
    Inv (triSucc t.a t.b t.c) [t] := by
  constructor
  · intro x y
    rw [mem_bdry]
    simp only [edgesOf, List.flatMap_cons, List.flatMap_nil, List.append_nil, mem_edges,
      Prod.swap, Prod.mk.injEq, triSucc_apply]
    grind
  · intro x y
    simp only [triSucc_apply]
    grind

theorem triSucc_rot {a b c : Nat} (hab : a ≠ b) (hca : c ≠ a) :
    triSucc b c a = triSucc a b c := by
  funext x
  simp only [triSucc_apply]
  grind

/-! ## B. The result is canonical (T18.3) -/

/-- A successful run of `compute_boundary` none of whose steps closes the surface (`hopen`): start from some rotation of one
triangle, then repeatedly add a triangle one of whose rotations passes `tryRot`.  The list holds the triangles consumed so far
(latest first).  No order of search is imposed, so every order in which the code may consume the triangles is covered.  What the
code performs is `GreedyRaw` (part D), without `hopen`; `greedy_of_raw` is the bridge, under `NoClosedPart`. -/
inductive Greedy : List Dual → (Nat → Nat) → Prop
  | init {t t' : Dual} (hr : IsRot t' t) (hab : t.a ≠ t.b) (hbc : t.b ≠ t.c) (hca : t.c ≠ t.a) :
      Greedy [t] (triSucc t'.a t'.b t'.c)
  | step {D : List Dual} {succ succ' : Nat → Nat} {t t' : Dual} (hD : Greedy D succ)
      (hr : IsRot t' t) (hopen : Open t D) (h : aTryRot succ t'.a t'.b t'.c = some succ') :
      Greedy (t :: D) succ'

theorem triSucc_isRot {t t' : Dual} (hr : IsRot t' t) (hab : t.a ≠ t.b) (hbc : t.b ≠ t.c)
    (hca : t.c ≠ t.a) : triSucc t'.a t'.b t'.c = triSucc t.a t.b t.c := by
  rcases hr with rfl | rfl | rfl
  · rfl
  · exact triSucc_rot hab hca
  · exact (triSucc_rot hbc hab).trans (triSucc_rot hab hca)

/-- **T18.3 (first half).**  Whenever the greedy procedure succeeds on `R`, the final cycle is that of `bdry R`.  `hN` holds
for a repetition-free part of a closed surface (`nodup_edgesOf_of_subset`). -/
theorem greedy_inv {R : List Dual} {succ : Nat → Nat} (h : Greedy R succ)
    (hN : (edgesOf R).Nodup) : Inv succ R := by
  induction h with
  | init hr hab hbc hca =>
    rw [triSucc_isRot hr hab hbc hca]
    exact init_inv hab hbc hca
  | step hD hr hopen h ih =>
    exact step hN (ih (nodup_edgesOf_tail hN)) hr hopen h

theorem bdry_congr {R R' : List Dual} (h : ∀ e, e ∈ edgesOf R ↔ e ∈ edgesOf R') :
    ∀ e, e ∈ bdry R ↔ e ∈ bdry R' := by
  intro e
  simp only [mem_bdry, h]

theorem edgesOf_perm {R R' : List Dual} (h : R.Perm R') : (edgesOf R).Perm (edgesOf R') := h.flatMap_right _

theorem bdry_perm_of_perm {R R' : List Dual} (h : R.Perm R') : (bdry R).Perm (bdry R') := by
  have he := edgesOf_perm h
  unfold bdry
  rw [List.filter_congr fun e _ => decide_eq_decide.2 (not_congr he.mem_iff)]
  exact he.filter _

/-- C18: the boundary does not depend on the order in which the removed vertices are stored -/
theorem bdry_perm {R R' : List Dual} (h : R.Perm R') : ∀ e, e ∈ bdry R ↔ e ∈ bdry R' :=
  fun _ => (bdry_perm_of_perm h).mem_iff

/-- C18: the boundary does not depend on the rotation in which a removed vertex stores its triple -/
theorem bdry_rot (R₁ R₂ : List Dual) (d : Dual) :
    ∀ e, e ∈ bdry (R₁ ++ d :: R₂) ↔ e ∈ bdry (R₁ ++ d.rot :: R₂) := by
  apply bdry_congr
  intro e
  simp only [edgesOf, List.flatMap_append, List.flatMap_cons, List.mem_append, mem_edges_rot]

/-- `R'` is `R` up to order and up to rotation of each triple -/
def RotPerm (R R' : List Dual) : Prop := ∃ R'', R.Perm R'' ∧ List.Forall₂ IsRot R' R''

theorem edgesOf_rotPerm {R R' : List Dual} (h : RotPerm R R') : ∀ e, e ∈ edgesOf R ↔ e ∈ edgesOf R' := by
  obtain ⟨R'', hp, hf⟩ := h
  intro e
  rw [(edgesOf_perm hp).mem_iff]
  clear hp
  induction hf with
  | nil => rfl
  | cons hr _ ih => simp only [edgesOf_cons, List.mem_append, mem_edges_isRot hr, ih]

theorem succ_ext {s₁ s₂ : Nat → Nat}
    (h : ∀ x y, (s₁ x = y ∧ x ≠ y) ↔ (s₂ x = y ∧ x ≠ y)) : s₁ = s₂ := by
  funext x
  by_cases h1 : s₁ x = x
  · by_cases h2 : s₂ x = x
    · rw [h1, h2]
    · exact ((h x (s₂ x)).2 ⟨rfl, fun e => h2 e.symm⟩).1
  · exact ((h x (s₁ x)).1 ⟨rfl, fun e => h1 e.symm⟩).1.symm

theorem CInv.ext_edges {R₁ R₂ : List Dual} {s₁ s₂ : Nat → Nat} (h₁ : CInv s₁ R₁) (h₂ : CInv s₂ R₂)
    (he : ∀ e, e ∈ edgesOf R₁ ↔ e ∈ edgesOf R₂) : ∀ x y, (s₁ x = y ∧ x ≠ y) ↔ (s₂ x = y ∧ x ≠ y) := by
  intro x y
  rw [h₁ x y, h₂ x y]
  exact bdry_congr he _

theorem greedy_canonical_of_edges {R₁ R₂ : List Dual} {s₁ s₂ : Nat → Nat}
    (h₁ : Greedy R₁ s₁) (h₂ : Greedy R₂ s₂) (hN₁ : (edgesOf R₁).Nodup) (hN₂ : (edgesOf R₂).Nodup)
    (he : ∀ e, e ∈ edgesOf R₁ ↔ e ∈ edgesOf R₂) :
    ∀ x y, (s₁ x = y ∧ x ≠ y) ↔ (s₂ x = y ∧ x ≠ y) :=
  (greedy_inv h₁ hN₁).1.ext_edges (greedy_inv h₂ hN₂).1 he

/-- **T18.3 (canonical result).**  Two successful runs on the same removed set, stored in any two orders and with any
rotation of each triple, end with the same cycle. -/
theorem greedy_canonical {R₁ R₂ : List Dual} {s₁ s₂ : Nat → Nat}
    (h₁ : Greedy R₁ s₁) (h₂ : Greedy R₂ s₂) (hN₁ : (edgesOf R₁).Nodup) (hN₂ : (edgesOf R₂).Nodup)
    (hrp : RotPerm R₁ R₂) :
    (∀ x y, (s₁ x = y ∧ x ≠ y) ↔ (s₂ x = y ∧ x ≠ y)) ∧ s₁ = s₂ := by
  have := greedy_canonical_of_edges h₁ h₂ hN₁ hN₂ (edgesOf_rotPerm hrp)
  exact ⟨this, succ_ext this⟩

/-! ## C. Closedness is preserved by a clip (T18.4) -/

/-- the new triple created for the boundary edge `e = (cur, next)` and the new plane `p` -/
def newTri (p : Nat) (e : Nat × Nat) : Dual := ⟨e.1, e.2, p⟩

/-- dual triples after the clip: kept triples, then one new triple per boundary edge -/
def clipDuals (T R : List Dual) (p : Nat) : List Dual :=
  T.filter (fun d => decide (∀ r ∈ R, d ≠ r)) ++ (bdry R).map (newTri p)

section
variable {T R : List Dual} {p : Nat}

theorem mem_clip_iff {d : Dual} :
    d ∈ clipDuals T R p ↔ (d ∈ T ∧ d ∉ R) ∨ ∃ e ∈ bdry R, d = newTri p e := by
  simp only [clipDuals, List.mem_append, List.mem_filter, List.mem_map, decide_eq_true_eq, List.forall_mem_ne,
    @eq_comm _ d]

theorem mem_clip_kept {d : Dual} (hd : d ∈ T) (hn : d ∉ R) : d ∈ clipDuals T R p :=
  mem_clip_iff.2 (.inl ⟨hd, hn⟩)

theorem mem_clip_new {e : Nat × Nat} (he : e ∈ bdry R) : newTri p e ∈ clipDuals T R p :=
  mem_clip_iff.2 (.inr ⟨e, he, rfl⟩)

theorem clipDuals_perm {R' : List Dual} (p : Nat) (h : R.Perm R') : (clipDuals T R p).Perm (clipDuals T R' p) := by
  unfold clipDuals
  have : ∀ d : Dual, (∀ r ∈ R, d ≠ r) ↔ ∀ r ∈ R', d ≠ r := fun d => by
    rw [List.forall_mem_ne, List.forall_mem_ne, h.mem_iff]
  simp only [this]
  exact .append_left _ ((bdry_perm_of_perm h).map _)

theorem mem_edgesOf_cone {B : List (Nat × Nat)} {e : Nat × Nat} :
    e ∈ edgesOf (B.map (newTri p)) ↔ ∃ x y, (x, y) ∈ B ∧ (e = (x, y) ∨ e = (y, p) ∨ e = (p, x)) := by
  simp only [mem_edgesOf, List.mem_map, mem_edges, newTri]
  constructor
  · rintro ⟨d, ⟨⟨x, y⟩, hb, rfl⟩, he⟩
    exact ⟨x, y, hb, he⟩
  · rintro ⟨x, y, hb, he⟩
    exact ⟨_, ⟨(x, y), hb, rfl⟩, he⟩

theorem nodup_bdry (h : (edgesOf R).Nodup) : (bdry R).Nodup :=
  h.filter _

theorem nodup_clipDuals (hT : T.Nodup) (hE : (edgesOf R).Nodup)
    (hp : ∀ d ∈ T, d.c ≠ p) : (clipDuals T R p).Nodup := by
  refine List.Nodup.append (hT.filter _) ((nodup_bdry hE).map fun e e' h => ?_) ?_
  · simp only [newTri, Dual.mk.injEq] at h
    exact Prod.ext h.1 h.2.1
  · intro d hd hd'
    obtain ⟨e, _, rfl⟩ := List.mem_map.mp hd'
    exact hp _ (List.mem_filter.mp hd).1 rfl

theorem edgesOf_subset (hR : R ⊆ T) {e : Nat × Nat} (h : e ∈ edgesOf R) : e ∈ edgesOf T := by
  obtain ⟨d, hd, he⟩ := mem_edgesOf.1 h
  exact mem_edgesOf.2 ⟨d, hR hd, he⟩

theorem exists_kept_across (hT : Closed T) (hR : R ⊆ T) {e : Nat × Nat} (he : e ∈ bdry R) :
    ∃ d ∈ T, d ∉ R ∧ e.swap ∈ d.edges := by
  obtain ⟨d, hdT, hde⟩ := mem_edgesOf.mp (hT.2 e (edgesOf_subset hR (mem_bdry.mp he).1))
  exact ⟨d, hdT, fun h => (mem_bdry.mp he).2 (mem_edgesOf.mpr ⟨d, h, hde⟩), hde⟩

theorem mem_edgesOf_kept_iff (hN : (edgesOf T).Nodup) (hR : R ⊆ T) {e : Nat × Nat} :
    e ∈ edgesOf (T.filter (fun d => decide (∀ r ∈ R, d ≠ r))) ↔ e ∈ edgesOf T ∧ e ∉ edgesOf R := by
  simp only [mem_edgesOf, List.mem_filter, decide_eq_true_eq, List.forall_mem_ne]
  constructor
  · rintro ⟨d, ⟨hd, hdR⟩, he⟩
    exact ⟨⟨d, hd, he⟩, mem_edgesOf.not.1 (not_mem_edgesOf_of_not_mem hN hR hd hdR he)⟩
  · rintro ⟨⟨d, hd, he⟩, h'⟩
    exact ⟨d, ⟨hd, fun hdR => h' ⟨d, hdR, he⟩⟩, he⟩

/-- kept apart from its one use: there `grind` would also instantiate the quantified hypotheses about `B` -/
theorem edges_newTri_inter {x y x' y' : Nat} (hx : x ≠ p) (hy : y ≠ p) (hx' : x' ≠ p) (hy' : y' ≠ p)
    {e : Nat × Nat} (h : e ∈ (newTri p (x, y)).edges) (h' : e ∈ (newTri p (x', y')).edges) : x = x' ∨ y = y' := by
  simp only [newTri, mem_edges] at h h'
  grind

/-- a common edge of two triangles of the cone from `p` over `B` identifies their sources or their targets -/
theorem nodup_edgesOf_cone {B : List (Nat × Nat)} (hB : B.Nodup) (hpB : ∀ x y, (x, y) ∈ B → x ≠ p ∧ y ≠ p)
    (hout : ∀ x y z, (x, y) ∈ B → (x, z) ∈ B → y = z) (hin : ∀ x y z, (y, x) ∈ B → (z, x) ∈ B → y = z) :
    (edgesOf (B.map (newTri p))).Nodup := by
  rw [edgesOf, List.flatMap_map, List.nodup_flatMap]
  refine ⟨fun ⟨x, y⟩ h => ?_, hB.imp_of_mem ?_⟩
  · obtain ⟨hx, hy⟩ := hpB x y h
    simp [newTri, Dual.edges, hx, hy, hx.symm]
  · rintro ⟨x, y⟩ ⟨x', y'⟩ h h' hne e he he'
    rcases edges_newTri_inter (hpB x y h).1 (hpB x y h).2 (hpB x' y' h').1 (hpB x' y' h').2 he he' with rfl | rfl
    · exact hne (by rw [hout _ _ _ h h'])
    · exact hne (by rw [hin _ _ _ h h'])

/-- **T18.4 (closedness preserved).**  `T` closed, `R ⊆ T` removed, `p` a fresh index, and the boundary of `R` a disjoint
union of cycles (`hout`, `hin`, `hbal`): the clipped triple list is closed again. -/
theorem closed_clip (hT : Closed T) (hR : R ⊆ T) (hRn : R.Nodup)
    (hp : ∀ d ∈ T, d.a ≠ p ∧ d.b ≠ p ∧ d.c ≠ p)
    (hout : ∀ x y z, (x, y) ∈ bdry R → (x, z) ∈ bdry R → y = z)
    (hin : ∀ x y z, (y, x) ∈ bdry R → (z, x) ∈ bdry R → y = z)
    (hbal : ∀ x, (∃ y, (x, y) ∈ bdry R) ↔ (∃ z, (z, x) ∈ bdry R)) :
    Closed (clipDuals T R p) := by
  obtain ⟨hN, hS⟩ := hT
  have hpe : ∀ x y, (x, y) ∈ edgesOf T → x ≠ p ∧ y ≠ p := fun x y h => by
    obtain ⟨d, hd, he⟩ := mem_edgesOf.1 h
    obtain ⟨h1, h2, h3⟩ := hp d hd
    obtain ⟨rfl, rfl⟩ | ⟨rfl, rfl⟩ | ⟨rfl, rfl⟩ := by simpa only [mem_edges, Prod.mk.injEq] using he
    exacts [⟨h1, h2⟩, ⟨h2, h3⟩, ⟨h3, h1⟩]
  have hbT : ∀ {e}, e ∈ bdry R → e ∈ edgesOf T := fun h => edgesOf_subset hR (mem_bdry.1 h).1
  have hsplit : edgesOf (clipDuals T R p) =
      edgesOf (T.filter fun d => decide (∀ r ∈ R, d ≠ r)) ++ edgesOf ((bdry R).map (newTri p)) := List.flatMap_append
  rw [Closed, hsplit]
  constructor
  · -- no directed edge occurs twice: not among the kept ones, not in the cone, and the two parts share none
    refine List.nodup_append.2 ⟨(List.filter_sublist.flatMap _).nodup hN,
      nodup_edgesOf_cone (nodup_bdry (nodup_edgesOf_of_subset hN hRn hR)) (fun x y h => hpe x y (hbT h)) hout hin, ?_⟩
    rintro e he _ he' rfl
    obtain ⟨k1, k2⟩ := (mem_edgesOf_kept_iff hN hR).1 he
    obtain ⟨x, y, hxy, rfl | rfl | rfl⟩ := mem_edgesOf_cone.1 he'
    · exact k2 (mem_bdry.1 hxy).1
    · exact (hpe _ _ k1).2 rfl
    · exact (hpe _ _ k1).1 rfl
  · intro e he
    simp only [List.mem_append, mem_edgesOf_kept_iff hN hR, mem_edgesOf_cone] at he ⊢
    rcases he with ⟨k1, k2⟩ | ⟨x, y, hxy, rfl | rfl | rfl⟩
    · by_cases h : e.swap ∈ edgesOf R
      · exact .inr ⟨e.2, e.1, mem_bdry.2 ⟨h, by simpa using k2⟩, .inl rfl⟩
      · exact .inl ⟨hS e k1, h⟩
    · exact .inl ⟨hS _ (hbT hxy), (mem_bdry.1 hxy).2⟩
    · obtain ⟨z, hz⟩ := (hbal y).2 ⟨x, hxy⟩
      exact .inr ⟨y, z, hz, .inr (.inr rfl)⟩
    · obtain ⟨z, hz⟩ := (hbal x).1 ⟨y, hxy⟩
      exact .inr ⟨z, x, hz, .inr (.inl rfl)⟩

end

/-- `bdry R` is a disjoint union of cycles: the hypotheses `hout`, `hin`, `hbal` of `closed_clip` -/
theorem bdry_cycles_of_inv {R : List Dual} {succ : Nat → Nat} (hI : Inv succ R) :
    (∀ x y z, (x, y) ∈ bdry R → (x, z) ∈ bdry R → y = z) ∧
    (∀ x y z, (y, x) ∈ bdry R → (z, x) ∈ bdry R → y = z) ∧
    (∀ x, (∃ y, (x, y) ∈ bdry R) ↔ (∃ z, (z, x) ∈ bdry R)) := by
  obtain ⟨hC, hinj⟩ := hI
  refine ⟨fun x y z h1 h2 => (hC.eq_succ h1).1.symm.trans (hC.eq_succ h2).1,
    fun x y z h1 h2 => hinj ((hC.eq_succ h1).1.trans (hC.eq_succ h2).1.symm), fun x => ⟨?_, ?_⟩⟩
  · rintro ⟨y, hxy⟩
    -- `succ` maps its finite support `S` injectively into itself, hence onto
    let S := ((bdry R).map Prod.fst).dedup
    have hS : ∀ z, z ∈ S ↔ succ z ≠ z := fun z => List.mem_dedup.trans hC.mem_fst_bdry
    have hsub : S.map succ ⊆ S := fun z hz => by
      obtain ⟨w, hw, rfl⟩ := List.mem_map.1 hz
      exact (hS _).2 fun h => (hS w).1 hw (hinj h)
    have hperm : (S.map succ).Perm S :=
      (List.subperm_of_subset ((List.nodup_dedup _).map hinj) hsub).perm_of_length_le
        (Nat.le_of_eq (List.length_map succ).symm)
    obtain ⟨z, hz, rfl⟩ := List.mem_map.1 (hperm.mem_iff.2 ((hS x).2 (hC.eq_succ hxy).2))
    exact ⟨z, hC.succ_mem ((hS z).1 hz)⟩
  · rintro ⟨z, hzx⟩
    obtain ⟨rfl, hz⟩ := hC.eq_succ hzx
    exact ⟨_, hC.succ_mem fun h => hz (hinj h)⟩

/-- **T18.4 with the cycle invariant** in the place of `hout`, `hin`, `hbal`. -/
theorem closed_preserved {T R : List Dual} {p : Nat} {succ : Nat → Nat} (hT : Closed T)
    (hR : R ⊆ T) (hRn : R.Nodup) (hp : ∀ d ∈ T, d.a ≠ p ∧ d.b ≠ p ∧ d.c ≠ p)
    (hI : Inv succ R) : Closed (clipDuals T R p) := by
  obtain ⟨h1, h2, h3⟩ := bdry_cycles_of_inv hI
  exact closed_clip hT hR hRn hp h1 h2 h3

/-- T18.4: the vertices a clip creates are `(x, succ x, p)`, one for each plane `x` on the boundary cycle -/
theorem mem_new_iff {R : List Dual} {p : Nat} {succ : Nat → Nat} (hI : Inv succ R) (d : Dual) :
    d ∈ (bdry R).map (newTri p) ↔ succ d.a ≠ d.a ∧ d.b = succ d.a ∧ d.c = p := by
  simp only [List.mem_map, newTri]
  constructor
  · rintro ⟨⟨x, y⟩, hxy, rfl⟩
    exact ⟨(hI.1.eq_succ hxy).2, (hI.1.eq_succ hxy).1.symm, rfl⟩
  · rintro ⟨h1, h2, h3⟩
    exact ⟨(d.a, succ d.a), hI.1.succ_mem h1, by rw [← h2, ← h3]⟩

/-- **T18.2–T18.4 combined.**  A successful greedy run on the removed part `R` of a closed surface `T` yields a closed surface. -/
theorem greedy_closed {T R : List Dual} {p : Nat} {succ : Nat → Nat} (hT : Closed T)
    (hR : R ⊆ T) (hRn : R.Nodup) (hp : ∀ d ∈ T, d.a ≠ p ∧ d.b ≠ p ∧ d.c ≠ p)
    (hG : Greedy R succ) : Closed (clipDuals T R p) :=
  closed_preserved hT hR hRn hp (greedy_inv hG (nodup_edgesOf_of_subset hT.1 hRn hR))

/-! ## D. Discharging the side condition `Open`: the cycle is a single cycle -/

/-- `Greedy` without the side condition `Open`: what the code performs -/
inductive GreedyRaw : List Dual → (Nat → Nat) → Prop
  | init {t t' : Dual} (hr : IsRot t' t) (hab : t.a ≠ t.b) (hbc : t.b ≠ t.c) (hca : t.c ≠ t.a) :
      GreedyRaw [t] (triSucc t'.a t'.b t'.c)
  | step {D : List Dual} {succ succ' : Nat → Nat} {t t' : Dual} (hD : GreedyRaw D succ)
      (hr : IsRot t' t) (h : aTryRot succ t'.a t'.b t'.c = some succ') :
      GreedyRaw (t :: D) succ'

def Conn (succ : Nat → Nat) : Prop :=
  ∀ x y, succ x ≠ x → succ y ≠ y → ∃ k, succ^[k] x = y

theorem conn_tri {a b c : Nat} (hab : a ≠ b) (hbc : b ≠ c) (hca : c ≠ a) :
    Conn (triSucc a b c) := by
  have ha := triSucc_fst hab hca
  have hb := triSucc_snd (a := a) hbc
  have hc := triSucc_trd (a := a) (b := b) (c := c)
  intro x y hx hy
  rcases (triSucc_ne_iff hca).1 hx with rfl | rfl | rfl <;>
    rcases (triSucc_ne_iff hca).1 hy with rfl | rfl | rfl
  · exact ⟨0, rfl⟩
  · exact ⟨1, ha⟩
  · exact ⟨2, by simp [Function.iterate_succ, ha, hb]⟩
  · exact ⟨2, by simp [Function.iterate_succ, hb, hc]⟩
  · exact ⟨0, rfl⟩
  · exact ⟨1, hb⟩
  · exact ⟨1, hc⟩
  · exact ⟨2, by simp [Function.iterate_succ, hc, ha]⟩
  · exact ⟨0, rfl⟩

/-- as a reflexive-transitive closure, so that paths can be mapped step by step (`ReflTransGen.lift'`) -/
theorem exists_iterate_iff {f : Nat → Nat} {x y : Nat} :
    (∃ k, f^[k] x = y) ↔ ReflTransGen (fun a b => f a = b) x y := by
  constructor
  · rintro ⟨k, rfl⟩
    induction k with
    | zero => exact .refl
    | succ k ih =>
      rw [Function.iterate_succ_apply']
      exact ih.tail rfl
  · intro h
    induction h with
    | refl => exact ⟨0, rfl⟩
    | tail _ hbc ih =>
      obtain ⟨k, rfl⟩ := ih
      refine ⟨k + 1, ?_⟩
      rw [Function.iterate_succ_apply']
      exact hbc

section
variable {succ succ' : Nat → Nat} {ti tj tk : Nat}

theorem conn_ins (hC : Conn succ) (hc : Cond1 succ ti tj tk) :
    Conn (ins succ ti tj tk) := by
  have hki := hc.ne_ki
  -- every `succ`-step is an `ins`-path: the step `tk → tj` becomes `tk → ti → tj`
  have lift : ∀ x y, (∃ k, succ^[k] x = y) → ∃ k, (ins succ ti tj tk)^[k] x = y := fun x y h =>
    exists_iterate_iff.2 <| (exists_iterate_iff.1 h).lift' id fun a b hab => by
      subst hab
      by_cases hi : a = ti
      · rw [hi, hc.1]
      by_cases hk : a = tk
      · rw [hk, hc.2.2.2]
        exact .tail (.single (ins_trd hki : ins succ ti tj tk tk = ti)) (ins_fst : ins succ ti tj tk ti = tj)
      · exact .single (ins_of_ne hi hk : ins succ ti tj tk a = succ a)
  intro x y hx hy
  rcases (ins_ne_iff hc).1 hx with rfl | hx' <;> rcases (ins_ne_iff hc).1 hy with rfl | hy'
  · exact ⟨0, rfl⟩
  · obtain ⟨k, hk⟩ := lift tj y (hC tj y hc.2.1 hy')
    exact ⟨k + 1, by rw [Function.iterate_succ_apply, ins_fst, hk]⟩
  · obtain ⟨k, hk⟩ := lift x tk (hC x tk hx' hc.2.2.1)
    exact ⟨k + 1, by rw [Function.iterate_succ_apply', hk, ins_trd hki]⟩
  · exact lift x y (hC x y hx' hy')

theorem conn_del (hinj : Function.Injective succ)
    (hC : Conn succ) (hc : Cond2 succ ti tj tk) : Conn (del succ ti tj tk) := by
  have hkj := hc.ne_kj
  intro x y hx hy
  obtain ⟨hxj, hx'⟩ := of_del_ne hc hx
  obtain ⟨hyj, hy'⟩ := of_del_ne hc hy
  -- a `succ`-path becomes a `del`-path when `tj` is identified with `ti`
  have : ReflTransGen (fun a b => del succ ti tj tk a = b) (if x = tj then ti else x) (if y = tj then ti else y) :=
    (exists_iterate_iff.1 (hC x y hx' hy')).lift' (fun a => if a = tj then ti else a) fun a b hab => by
      subst hab
      show ReflTransGen _ (if a = tj then ti else a) (if succ a = tj then ti else succ a)
      by_cases hj : a = tj
      · rw [if_pos hj, hj, hc.2.2.2.2, if_neg hc.ne_ji.symm]
      rw [if_neg hj]
      by_cases hk : a = tk
      · rw [hk, hc.2.2.2.1, if_pos rfl]
        exact .single (del_trd hkj : del succ ti tj tk tk = ti)
      · rw [if_neg fun e => hk (hinj (e.trans hc.2.2.2.1.symm))]
        exact .single (del_of_ne hj hk : del succ ti tj tk a = succ a)
  rw [if_neg hxj, if_neg hyj] at this
  exact exists_iterate_iff.2 this

end

theorem greedy_conn {R : List Dual} {succ : Nat → Nat} (h : Greedy R succ) (hN : (edgesOf R).Nodup) : Conn succ := by
  induction h with
  | init hr hab hbc hca =>
    rw [triSucc_isRot hr hab hbc hca]
    exact conn_tri hab hbc hca
  | step hD hr _ h ih =>
    have hC := ih (nodup_edgesOf_tail hN)
    rcases aTryRot_eq_some.1 h with ⟨hc, rfl⟩ | ⟨hc, rfl⟩
    exacts [conn_ins hC hc, conn_del (greedy_inv hD (nodup_edgesOf_tail hN)).2 hC hc]

/-- gluing a triangle to a single boundary cycle along all three of its edges leaves no boundary -/
theorem bdry_cons_eq_nil {succ : Nat → Nat} {t : Dual} {D : List Dual} (hN : (edgesOf (t :: D)).Nodup)
    (hI : CInv succ D) (hC : Conn succ) (hno : ¬ Open t D) : bdry (t :: D) = [] := by
  have hd := disjoint_of_nodup_cons hN
  obtain ⟨⟨hba, nba⟩, ⟨hcb, ncb⟩, hac, nac⟩ :=
    not_not.1 (mt (open_iff hI hd fun e => mem_edges).2 hno)
  -- the cycle is a single cycle and contains `t.c → t.b → t.a → t.c`: it is that triangle
  have hsupp : ∀ x, succ x ≠ x → x = t.a ∨ x = t.b ∨ x = t.c := fun x hx => by
    obtain ⟨k, rfl⟩ := hC t.c x (fun e => ncb (hcb.symm.trans e).symm) hx
    clear hx
    induction k with
    | zero => exact .inr (.inr rfl)
    | succ k ih =>
      rw [Function.iterate_succ_apply']
      rcases ih with e | e | e <;> rw [e]
      exacts [.inr (.inr hac), .inl hba, .inr (.inl hcb)]
  rw [List.eq_nil_iff_forall_not_mem]
  rintro ⟨x, y⟩ hxy
  rw [mem_bdry_cons_iff hN hI] at hxy
  simp only [mem_edges, Prod.mk.injEq] at hxy
  have := hsupp x
  grind

/-- holds of every proper part of a connected closed surface (`noClosedPart_of_connected`) -/
def NoClosedPart (R : List Dual) : Prop := ∀ S, S ≠ [] → S ⊆ R → bdry S ≠ []

theorem NoClosedPart.mono {R R' : List Dual} (h : R' ⊆ R) (hR : NoClosedPart R) : NoClosedPart R' :=
  fun S hS hsub => hR S hS (hsub.trans h)

/-- **The side condition is automatic.**  If no non-empty part of `R` is closed, no closing step occurs in a raw run on `R`,
so B and D apply to it. -/
theorem greedy_of_raw {R : List Dual} {succ : Nat → Nat} (h : GreedyRaw R succ)
    (hN : (edgesOf R).Nodup) (hR : NoClosedPart R) : Greedy R succ ∧ Conn succ := by
  suffices hG : Greedy R succ from ⟨hG, greedy_conn hG hN⟩
  induction h with
  | init hr hab hbc hca => exact Greedy.init hr hab hbc hca
  | @step D succ succ' t t' hD hr h ih =>
    have hND := nodup_edgesOf_tail hN
    have hG := ih hND (hR.mono (List.subset_cons_self _ _))
    -- the step is not a closing step: `t :: D` would have no boundary
    refine Greedy.step hG hr (by_contra fun hno => ?_) h
    exact hR (t :: D) (List.cons_ne_nil _ _) (List.Subset.refl _)
      (bdry_cons_eq_nil hN (greedy_inv hG hND).1 (greedy_conn hG hND) hno)

theorem noClosedPart_of_connected {T R : List Dual}
    (hconn : ∀ S, S ≠ [] → S ⊆ T → bdry S = [] → T ⊆ S)
    (hR : R ⊆ T) (hproper : ∃ t ∈ T, t ∉ R) : NoClosedPart R := by
  intro S hS hsub hb
  obtain ⟨t, htT, htR⟩ := hproper
  exact htR (hsub (hconn S hS (fun x hx => hR (hsub hx)) hb htT))

/-! ## Non-vacuity: the cube -/

/-- the 8 vertex duals of a cube (planes 0..5): the start box of `ConvexCell::init`, the same list as `Cell.initDuals`,
`EulerReach.box8` and `Star.initT` -/
def cube : List Dual :=
  [⟨2, 5, 0⟩, ⟨5, 3, 0⟩, ⟨1, 5, 2⟩, ⟨5, 1, 3⟩, ⟨4, 2, 0⟩, ⟨4, 0, 3⟩, ⟨2, 4, 1⟩, ⟨4, 3, 1⟩]

instance (T : List Dual) : Decidable (Closed T) := by unfold Closed; infer_instance

theorem closed_cube : Closed cube := by decide +kernel

example : Closed cube := closed_cube

example : bdry [⟨2, 5, 0⟩, ⟨5, 3, 0⟩] = [(2, 5), (0, 2), (5, 3), (3, 0)] := by decide +kernel

/-- the cube clipped by a new plane 6 that removes those two vertices is closed again -/
example : Closed (clipDuals cube [⟨2, 5, 0⟩, ⟨5, 3, 0⟩] 6) := by decide +kernel

end MVoro.CycleBoundary

#print axioms MVoro.CycleBoundary.step
#print axioms MVoro.CycleBoundary.step_closed
#print axioms MVoro.CycleBoundary.init_inv
#print axioms MVoro.CycleBoundary.greedy_inv
#print axioms MVoro.CycleBoundary.greedy_canonical
#print axioms MVoro.CycleBoundary.closed_clip
#print axioms MVoro.CycleBoundary.greedy_closed
#print axioms MVoro.CycleBoundary.greedy_of_raw
