/-
C15 (T15.3), towards V − E + F = 2: which planes (dual vertices) survive a clip.

A cell is a closed triple surface `T` (every directed edge once, with its reverse).  A clip removes the triples `R`, whose
boundary the greedy reconstruction returns as the cycle `succ` (`CycleBoundary.greedy_inv`), and adds one triple
`(x, succ x, p)` per boundary edge.  A plane `j` of `R` with `succ j = j` is *interior* to the removed region.

If the link of `j` in `T` is connected (`LinkConn`: the triples at `j` form one umbrella — true on a sphere, false at a pinched
vertex), an interior plane has ALL its triples in `R` and vanishes from the cell; the other planes survive.

The two hypotheses the theorems carry are theorems too: link connectedness is an invariant of clipping
(`LinkClip.linkConn_preserved`) and every removed region the greedy reconstruction succeeds on satisfies the disc relation
(`EulerClip.disc_relation`); `EulerReach.euler_reach` puts them together for every cell reachable from the start box.  The check
also computes V − E + F = 2 for every cell (op `withfaces`).
-/
import MVoro.Proofs.CycleBoundary

namespace MVoro.Euler
open MVoro MVoro.CycleBoundary

def HasPlane (d : Dual) (j : Nat) : Prop := j = d.a ∨ j = d.b ∨ j = d.c

/-- one step around `j`: `d'` is the triple across the edge of `d` that leaves `j` -/
def StepAt (T : List Dual) (j : Nat) (d d' : Dual) : Prop := d' ∈ T ∧ ∃ x, (j, x) ∈ d.edges ∧ (x, j) ∈ d'.edges

def LinkConn (T : List Dual) (j : Nat) : Prop :=
  ∀ d ∈ T, ∀ d' ∈ T, HasPlane d j → HasPlane d' j → Relation.ReflTransGen (StepAt T j) d d'

theorem LinkConn.congr {T T' : List Dual} (h : ∀ d, d ∈ T ↔ d ∈ T') {j : Nat} (hl : LinkConn T j) : LinkConn T' j :=
  fun d hd d' hd' hdj hdj' =>
    Relation.ReflTransGen.mono (fun _ _ hs => ⟨(h _).1 hs.1, hs.2⟩) _ _ (hl d ((h d).2 hd) d' ((h d').2 hd') hdj hdj')

/-! `d.edges` are `(a, b), (b, c), (c, a)`: facts about one triple are case checks over its three fields, left to `grind`. -/

theorem hasPlane_of_edge_left {d : Dual} {x y : Nat} (h : (x, y) ∈ d.edges) : HasPlane d x := by
  simp only [mem_edges, Prod.mk.injEq] at h
  unfold HasPlane
  grind

theorem hasPlane_of_edge_right {d : Dual} {x y : Nat} (h : (x, y) ∈ d.edges) : HasPlane d y := by
  simp only [mem_edges, Prod.mk.injEq] at h
  unfold HasPlane
  grind

theorem hasPlane_of_step {T : List Dual} {j : Nat} {d d' : Dual} (h : StepAt T j d d') : HasPlane d' j :=
  let ⟨_, _, _, hx⟩ := h
  hasPlane_of_edge_right hx

theorem edge_out_of_plane {d : Dual} {j : Nat} (h : HasPlane d j) : ∃ x, (j, x) ∈ d.edges := by
  simp only [mem_edges, Prod.mk.injEq]
  rcases h with rfl | rfl | rfl
  · exact ⟨d.b, .inl ⟨rfl, rfl⟩⟩
  · exact ⟨d.c, .inr (.inl ⟨rfl, rfl⟩)⟩
  · exact ⟨d.a, .inr (.inr ⟨rfl, rfl⟩)⟩

theorem edge_of_hasPlane {d : Dual} {p x : Nat} (hp : HasPlane d p) (hx : HasPlane d x) (hne : p ≠ x) :
    (p, x) ∈ d.edges ∨ (x, p) ∈ d.edges := by
  simp only [mem_edges, Prod.mk.injEq]
  unfold HasPlane at hp hx
  grind

theorem hasPlane_isRot {t' t : Dual} (h : IsRot t' t) (j : Nat) : HasPlane t' j ↔ HasPlane t j := by
  unfold HasPlane
  rcases h with rfl | rfl | rfl <;> simp only [Dual.rot] <;> grind

theorem distinct_isRot {t' t : Dual} (hr : IsRot t' t) (h : t.a ≠ t.b ∧ t.b ≠ t.c ∧ t.c ≠ t.a) :
    t'.a ≠ t'.b ∧ t'.b ≠ t'.c ∧ t'.c ≠ t'.a := by
  rcases hr with rfl | rfl | rfl
  · exact h
  · exact ⟨h.2.1, h.2.2, h.1⟩
  · exact ⟨h.2.2, h.1, h.2.1⟩

section
variable {d : Dual} (hd : d.a ≠ d.b ∧ d.b ≠ d.c ∧ d.c ≠ d.a) {p x y : Nat}
include hd

theorem out_edge_unique (hx : (p, x) ∈ d.edges) (hy : (p, y) ∈ d.edges) : x = y := by
  simp only [mem_edges, Prod.mk.injEq] at hx hy
  grind

theorem in_edge_unique (hx : (x, p) ∈ d.edges) (hy : (y, p) ∈ d.edges) : x = y := by
  simp only [mem_edges, Prod.mk.injEq] at hx hy
  grind

theorem edge_ne (h : (p, x) ∈ d.edges) : p ≠ x := by
  simp only [mem_edges, Prod.mk.injEq] at h
  grind

theorem no_back_edge (h : (p, x) ∈ d.edges) : (x, p) ∉ d.edges := by
  simp only [mem_edges, Prod.mk.injEq] at h ⊢
  grind

end

/-- T15.3: the face of an interior plane vanishes from the cell -/
theorem interior_gone {T R : List Dual} {succ : Nat → Nat} (hT : (edgesOf T).Nodup) (hR : R ⊆ T) (hI : CInv succ R)
    {j : Nat} (hj : succ j = j) (hlink : LinkConn T j) {r0 : Dual} (hr0 : r0 ∈ R) (hr0j : HasPlane r0 j) :
    ∀ d ∈ T, HasPlane d j → d ∈ R := by
  have key : ∀ d, Relation.ReflTransGen (StepAt T j) r0 d → d ∈ R := by
    intro d chain
    induction chain with
    | refl => exact hr0
    | @tail a b _ hstep ih =>
      obtain ⟨hbT, x, hx1, hx2⟩ := hstep
      -- `(j, x)` is an edge of `R` but no boundary edge (`j` is off the cycle), so its reverse is an edge of `R` too
      have hsw : (x, j) ∈ edgesOf R := by
        by_contra h
        exact (hI.eq_succ (mem_bdry.2 ⟨mem_edgesOf.mpr ⟨a, ih, hx1⟩, h⟩)).2 hj
      obtain ⟨r', hr', hr'e⟩ := mem_edgesOf.mp hsw
      exact edge_unique hT (hR hr') hbT hr'e hx2 ▸ hr'
  intro d hd hdj
  exact key d (hlink r0 (hR hr0) d hd hr0j hdj)

theorem on_cycle_of_new {R : List Dual} {succ : Nat → Nat} {p j : Nat} (hI : Inv succ R) {e : Nat × Nat}
    (he : e ∈ bdry R) (hj : HasPlane (newTri p e) j) (hjp : j ≠ p) : succ j ≠ j := by
  rcases hj with rfl | rfl | rfl
  · exact (hI.1.eq_succ he).2
  · exact hI.snd_on_cycle he
  · exact absurd rfl hjp

/-- T15.3: a face of the cell is still a face after the clip iff it is not interior to the removed region -/
theorem plane_survives_iff {T R : List Dual} {succ : Nat → Nat} {p : Nat} (hT : (edgesOf T).Nodup) (hR : R ⊆ T)
    (hI : Inv succ R) (hlink : ∀ j, LinkConn T j) (hp : ∀ d ∈ T, ¬ HasPlane d p) {j : Nat} (hjT : ∃ d ∈ T, HasPlane d j) :
    (∃ d ∈ clipDuals T R p, HasPlane d j) ↔ ¬ ((∃ r ∈ R, HasPlane r j) ∧ succ j = j) := by
  obtain ⟨d0, hd0, hd0j⟩ := hjT
  constructor
  · rintro ⟨d, hd, hdj⟩ ⟨⟨r0, hr0, hr0j⟩, hj⟩
    rcases mem_clip_iff.1 hd with ⟨hdT, hdR⟩ | ⟨e, he, rfl⟩
    · -- a kept triple at an interior plane: impossible
      exact hdR (interior_gone hT hR hI.1 hj (hlink j) hr0 hr0j d hdT hdj)
    · exact on_cycle_of_new hI he hdj (fun e => hp d0 hd0 (e ▸ hd0j)) hj
  · intro hni
    by_cases hall : ∀ d ∈ T, HasPlane d j → d ∈ R
    · -- every triple at `j` is removed: `j` is a plane of `R`, not interior, so it is on the boundary cycle
      have hsj : succ j ≠ j := fun h => hni ⟨⟨d0, hall d0 hd0 hd0j, hd0j⟩, h⟩
      exact ⟨_, mem_clip_new (hI.1.succ_mem hsj), Or.inl rfl⟩
    · push Not at hall
      obtain ⟨d, hd, hdj, hdR⟩ := hall
      exact ⟨d, mem_clip_kept hd hdR, hdj⟩

/-- T15.3: the new plane is a face of the clipped cell -/
theorem new_plane_present {T R : List Dual} {p : Nat} {e : Nat × Nat} (he : e ∈ bdry R) :
    ∃ d ∈ clipDuals T R p, HasPlane d p :=
  ⟨newTri p e, mem_clip_new he, Or.inr (Or.inr rfl)⟩

/-- T15.3, bookkeeping of one clip: `V` vertices / `F` faces of the cell (= triples / planes of the surface), `k` removed vertices,
`b` boundary edges (= new vertices), `m` interior planes (= faces that vanish).  `hdisc`: `V − E + F = 1` for the removed disc;
`V + 4 = 2F` is Euler's formula for a simple polytope, where `E = 3V/2`. -/
theorem euler_arith (V F k b m : Nat) (hk : k ≤ V) (hm : m ≤ F) (hdisc : 2 * m + b = k + 2) (hE : V + 4 = 2 * F) :
    (V - k + b) + 4 = 2 * (F - m + 1) := by
  omega

/-- the start box: 8 vertices, 6 faces -/
example : 8 + 4 = 2 * 6 := rfl

end MVoro.Euler
