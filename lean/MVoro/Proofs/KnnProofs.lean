/-
The ingredients of the correctness of the uniform-grid k-nearest-neighbour search (`Space::knn`, src/space.rs, model
`MVoro.Knn`): the cell lower bound, the bounded sorted "heap", the safety of skipping a cell, the ring termination bound, and
the witness that the pinned tree's cell placement (`c_width.x` on all axes) breaks the lower bound for non-cubic cells.
-/
import MVoro.Model.Knn
import MVoro.Proofs.Vec3
import Mathlib.Tactic.Linarith
import Mathlib.Tactic.Ring
import Mathlib.Tactic.NormNum
import Mathlib.Tactic.Positivity
import Mathlib.Data.List.Sort
import Mathlib.Algebra.Order.Field.Rat

namespace MVoro.KnnProofs

open MVoro MVoro.Knn List

theorem clampAxis_mem (x lo w : ℚ) (hw : 0 ≤ w) :
    lo ≤ clampAxis x lo w ∧ clampAxis x lo w ≤ lo + w := by
  unfold clampAxis
  split_ifs with h
  · exact ⟨le_min h.le (by linarith), min_le_right _ _⟩
  · constructor <;> linarith

theorem clampAxis_closest (x lo w p : ℚ) (h1 : lo ≤ p) (h2 : p ≤ lo + w) :
    (clampAxis x lo w - x) ^ 2 ≤ (p - x) ^ 2 := by
  unfold clampAxis
  split_ifs with h
  · rcases le_total x (lo + w) with h3 | h3
    · rw [min_eq_left h3, sub_self, zero_pow two_ne_zero]; exact sq_nonneg _
    · rw [min_eq_right h3, sub_sq_comm, sub_sq_comm p]
      exact pow_le_pow_left₀ (by linarith) (by linarith) 2
  · exact pow_le_pow_left₀ (by linarith) (by linarith) 2

def InBox (c : GCell) (p : Q3) : Prop :=
  (c.loc.x ≤ p.x ∧ p.x ≤ c.loc.x + c.width.x) ∧
  (c.loc.y ≤ p.y ∧ p.y ≤ c.loc.y + c.width.y) ∧
  (c.loc.z ≤ p.z ∧ p.z ≤ c.loc.z + c.width.z)

/-- `Cell::min_distance_squared` is a lower bound of the squared distance from `x` to every point of the cell box -/
theorem minDist2_lower_bound (c : GCell) (x p : Q3)
    (hw : 0 ≤ c.width.x ∧ 0 ≤ c.width.y ∧ 0 ≤ c.width.z) (hp : InBox c p) :
    minDist2 c x ≤ V3.norm2 (p - x) := by
  obtain ⟨⟨hx1, hx2⟩, ⟨hy1, hy2⟩, ⟨hz1, hz2⟩⟩ := hp
  unfold minDist2 closestLoc
  rw [V3.norm2_sub_def, V3.norm2_sub_def]
  have := clampAxis_closest x.x c.loc.x c.width.x p.x hx1 hx2
  have := clampAxis_closest x.y c.loc.y c.width.y p.y hy1 hy2
  have := clampAxis_closest x.z c.loc.z c.width.z p.z hz1 hz2
  linarith

/-- the bound is attained, at `Cell::closest_loc` -/
theorem closestLoc_inBox (c : GCell) (x : Q3)
    (hw : 0 ≤ c.width.x ∧ 0 ≤ c.width.y ∧ 0 ≤ c.width.z) :
    InBox c (closestLoc c x) ∧ minDist2 c x = V3.norm2 (closestLoc c x - x) :=
  ⟨⟨clampAxis_mem _ _ _ hw.1, clampAxis_mem _ _ _ hw.2.1, clampAxis_mem _ _ _ hw.2.2⟩, rfl⟩

/-- not `List.Sorted`, although `List` is open -/
def Sorted (h : List (ℚ × ℕ)) : Prop := h.Pairwise (fun a b => a.1 ≤ b.1)

abbrev dists (h : List (ℚ × ℕ)) : List ℚ := h.map (·.1)

abbrev sortQ (l : List ℚ) : List ℚ := l.mergeSort (· ≤ ·)

theorem mergeSort_eq_of_perm {α : Type} [LinearOrder α] {l₁ l₂ : List α} (hp : l₁ ~ l₂) (h2 : l₂.Pairwise (· ≤ ·)) :
    l₁.mergeSort (· ≤ ·) = l₂ :=
  ((mergeSort_perm _ _).trans hp).eq_of_pairwise' (pairwise_mergeSort' _ _) h2

theorem sorted_iff_dists (h : List (ℚ × ℕ)) : Sorted h ↔ (dists h).Pairwise (· ≤ ·) :=
  pairwise_map.symm

/-- the entry sort used by `insertK` -/
abbrev sortE (l : List (ℚ × ℕ)) : List (ℚ × ℕ) := l.mergeSort (fun a b => a.1 ≤ b.1)

theorem sortE_sorted (l : List (ℚ × ℕ)) : Sorted (sortE l) :=
  @pairwise_mergeSort' _ (fun a b : ℚ × ℕ => a.1 ≤ b.1) _ ⟨fun a b => le_total a.1 b.1⟩ ⟨fun _ _ _ => le_trans⟩ l

theorem dists_sortE (l : List (ℚ × ℕ)) : dists (sortE l) = sortQ (dists l) :=
  (mergeSort_eq_of_perm ((mergeSort_perm l _).map _).symm ((sorted_iff_dists _).mp (sortE_sorted l))).symm

abbrev smallest (k : ℕ) (l : List ℚ) : List ℚ := (sortQ l).take k

theorem insertK_lt (k : ℕ) (h : List (ℚ × ℕ)) (e : ℚ × ℕ) (hl : h.length < k) :
    insertK k h e = sortE (h ++ [e]) := by
  unfold insertK; rw [if_pos hl]

theorem insertK_full_lt (k : ℕ) (h : List (ℚ × ℕ)) (m e : ℚ × ℕ) (hl : ¬ h.length < k)
    (hm : h.getLast? = some m) (he : e.1 < m.1) : insertK k h e = sortE (h.dropLast ++ [e]) := by
  unfold insertK; rw [if_neg hl, hm]; simp only [if_pos he]

theorem insertK_full_ge (k : ℕ) (h : List (ℚ × ℕ)) (m e : ℚ × ℕ) (hl : ¬ h.length < k)
    (hm : h.getLast? = some m) (he : m.1 ≤ e.1) : insertK k h e = h := by
  unfold insertK; rw [if_neg hl, hm]; simp only [if_neg (not_lt.mpr he)]

/-- the `k` smallest distances of `M` are those of any `k` of its entries that lie below the others -/
theorem smallest_dists_eq {k : ℕ} {M L rest : List (ℚ × ℕ)} (hl : L.length = k) (hp : M ~ L ++ rest)
    (hle : ∀ b ∈ rest, ∀ a ∈ L, a.1 ≤ b.1) : smallest k (dists M) = sortQ (dists L) := by
  have : sortQ (dists M) = sortQ (dists L) ++ sortQ (dists rest) := by
    refine mergeSort_eq_of_perm ((hp.map _).trans ?_)
      (pairwise_append.2 ⟨pairwise_mergeSort' _ _, pairwise_mergeSort' _ _, fun a ha b hb => ?_⟩)
    · rw [map_append]
      exact (mergeSort_perm _ _).symm.append (mergeSort_perm _ _).symm
    · obtain ⟨x, hx, rfl⟩ := mem_map.1 ((mergeSort_perm _ _).mem_iff.1 ha)
      obtain ⟨y, hy, rfl⟩ := mem_map.1 ((mergeSort_perm _ _).mem_iff.1 hb)
      exact hle y hy x hx
  unfold smallest
  rw [this, take_left' (by rw [length_mergeSort, length_map, hl])]

theorem of_dists_eq_smallest {k : ℕ} {h M : List (ℚ × ℕ)} (hd : dists h = smallest k (dists M)) :
    Sorted h ∧ h.length = min k M.length ∧ dists h = smallest k (dists M) := by
  refine ⟨(sorted_iff_dists h).2 (hd ▸ (pairwise_mergeSort' _ _).sublist (take_sublist _ _)), ?_, hd⟩
  simpa only [length_map, length_take, length_mergeSort] using congrArg length hd

theorem insertK_spec (k : ℕ) (hk : 0 < k) (h : List (ℚ × ℕ)) (e : ℚ × ℕ) (hs : Sorted h)
    (hl : h.length ≤ k) :
    Sorted (insertK k h e) ∧ (insertK k h e).length = min k (h.length + 1) ∧
    dists (insertK k h e) = smallest k (dists (h ++ [e])) := by
  suffices hd : dists (insertK k h e) = smallest k (dists (h ++ [e])) from
    length_append (bs := [e]) ▸ of_dists_eq_smallest hd
  by_cases hlt : h.length < k
  · rw [insertK_lt k h e hlt, dists_sortE]
    exact (take_of_length_le (((length_mergeSort _).trans ((length_map _).trans length_append)).trans_le hlt)).symm
  · -- full: `h = h' ++ [m]`, and the larger of `m`, `e` is what is left out
    obtain ⟨h', m, rfl⟩ : ∃ h' m, h = h' ++ [m] :=
      ⟨h.dropLast, h.getLast fun h0 => hlt (h0 ▸ hk), (dropLast_append_getLast _).symm⟩
    have hlen : h'.length + 1 = k := length_append (bs := [m]) ▸ Nat.le_antisymm hl (Nat.not_lt.1 hlt)
    have hle : ∀ a ∈ h', a.1 ≤ m.1 := fun a ha => (pairwise_append.1 hs).2.2 a ha m (mem_singleton_self m)
    by_cases he : e.1 < m.1
    · rw [insertK_full_lt k _ m e hlt getLast?_concat he, dropLast_concat, dists_sortE]
      refine (smallest_dists_eq (rest := [m]) (length_append.trans hlen) ?_
        (forall_mem_singleton.2 (forall_mem_append.2 ⟨hle, forall_mem_singleton.2 he.le⟩))).symm
      rw [append_assoc, append_assoc]
      exact perm_append_comm.append_left h'
    · have he' : m.1 ≤ e.1 := not_lt.mp he
      rw [insertK_full_ge k _ m e hlt getLast?_concat he', ← mergeSort_eq_self (· ≤ ·) ((sorted_iff_dists _).1 hs)]
      exact (smallest_dists_eq (rest := [e]) (length_append.trans hlen) (Perm.refl _)
        (forall_mem_singleton.2 (forall_mem_append.2 ⟨fun a ha => (hle a ha).trans he', forall_mem_singleton.2 he'⟩))).symm

theorem insertK_length_le (k : ℕ) (hk : 0 < k) (h : List (ℚ × ℕ)) (e : ℚ × ℕ) (hs : Sorted h)
    (hl : h.length ≤ k) : (insertK k h e).length ≤ k := by
  rw [(insertK_spec k hk h e hs hl).2.1]; exact min_le_left _ _

theorem take_orderedInsert_take (d : ℚ) (S : List ℚ) : ∀ k : ℕ,
    ((S.take k).orderedInsert (· ≤ ·) d).take k = (S.orderedInsert (· ≤ ·) d).take k := by
  induction S with
  | nil => intro k; cases k <;> simp
  | cons a S ih =>
    intro k
    cases k with
    | zero => simp
    | succ k =>
      by_cases h : d ≤ a
      · cases k <;> simp [h, take_take]
      · simp [h, ih]

theorem sortQ_append_singleton (l : List ℚ) (d : ℚ) :
    sortQ (l ++ [d]) = (sortQ l).orderedInsert (· ≤ ·) d := by
  apply mergeSort_eq_of_perm
  · exact (perm_append_singleton d l).trans (((mergeSort_perm l _).symm.cons d).trans (perm_orderedInsert _ d _).symm)
  · exact (pairwise_mergeSort' _ l).orderedInsert d _

theorem smallest_append (k : ℕ) (X Y : List ℚ) :
    smallest k (smallest k X ++ Y) = smallest k (X ++ Y) := by
  induction Y using List.reverseRecOn with
  | nil =>
    simp only [append_nil]
    unfold smallest sortQ
    rw [mergeSort_eq_self _ ((pairwise_mergeSort' _ X).sublist (take_sublist _ _)), take_take, min_self]
  | append_singleton Y y ih =>
    unfold smallest at ih ⊢
    rw [← append_assoc, ← append_assoc, sortQ_append_singleton, sortQ_append_singleton,
      ← take_orderedInsert_take, ih, take_orderedInsert_take]

/-- the bounded list of `Space::knn`: folding `insertK k` over `es` keeps the `k` smallest distances -/
theorem foldl_insertK_spec (k : ℕ) (hk : 0 < k) (es : List (ℚ × ℕ)) : ∀ (h : List (ℚ × ℕ)), Sorted h →
    h.length ≤ k →
    Sorted (es.foldl (insertK k) h) ∧ (es.foldl (insertK k) h).length = min k (h.length + es.length) ∧
    dists (es.foldl (insertK k) h) = smallest k (dists (h ++ es)) := by
  suffices hd : ∀ h, Sorted h → h.length ≤ k → dists (es.foldl (insertK k) h) = smallest k (dists (h ++ es)) from
    fun h hs hl => length_append (bs := es) ▸ of_dists_eq_smallest (hd h hs hl)
  induction es with
  | nil =>
    intro h hs hl
    rw [foldl_nil, append_nil]
    unfold smallest sortQ
    rw [mergeSort_eq_self _ ((sorted_iff_dists h).mp hs), take_of_length_le ((length_map _).trans_le hl)]
  | cons e es ih =>
    intro h hs hl
    obtain ⟨s1, l1, d1⟩ := insertK_spec k hk h e hs hl
    rw [foldl_cons, ih _ s1 (l1 ▸ min_le_left _ _)]
    unfold dists at d1 ⊢
    rw [map_append, d1, smallest_append, ← map_append, append_assoc]
    rfl

theorem foldl_insertK_nil (k : ℕ) (hk : 0 < k) (es : List (ℚ × ℕ)) :
    Sorted (es.foldl (insertK k) []) ∧ (es.foldl (insertK k) []).length = min k es.length ∧
    (es.foldl (insertK k) []).map (·.1) = ((es.map (·.1)).mergeSort (· ≤ ·)).take k := by
  simpa only [nil_append, length_nil, Nat.zero_add] using foldl_insertK_spec k hk es [] Pairwise.nil (Nat.zero_le _)

theorem insertK_subset (k : ℕ) (h : List (ℚ × ℕ)) (e : ℚ × ℕ) : ∀ a ∈ insertK k h e, a ∈ h ∨ a = e := by
  intro a ha
  have key : ∀ X, X ⊆ h → a ∈ sortE (X ++ [e]) → a ∈ h ∨ a = e := fun X hX ha => by
    rw [(mergeSort_perm _ _).mem_iff, mem_append, mem_singleton] at ha
    exact ha.imp_left (hX ·)
  unfold insertK at ha
  split_ifs at ha
  · exact key h (Subset.refl _) ha
  · split at ha
    · split_ifs at ha
      · exact key _ (dropLast_subset _) ha
      · exact Or.inl ha
    · exact Or.inl ha

/-- no invented neighbours -/
theorem foldl_insertK_subset (k : ℕ) (es : List (ℚ × ℕ)) : ∀ (h : List (ℚ × ℕ)),
    ∀ a ∈ es.foldl (insertK k) h, a ∈ h ∨ a ∈ es := by
  induction es with
  | nil => exact fun h a ha => Or.inl ha
  | cons e es ih =>
    intro h a ha
    rcases ih _ a ha with h1 | h1
    · exact (insertK_subset k h e a h1).imp_right fun (h2 : a = e) => h2 ▸ mem_cons_self
    · exact Or.inr (mem_cons_of_mem _ h1)

theorem skip_safe_le (k : ℕ) (h : List (ℚ × ℕ)) (m : ℚ × ℕ) (hlen : h.length = k)
    (hm : h.getLast? = some m) (es : List (ℚ × ℕ)) (hes : ∀ e ∈ es, m.1 ≤ e.1) :
    es.foldl (insertK k) h = h := by
  induction es with
  | nil => rfl
  | cons e es ih =>
    rw [foldl_cons, insertK_full_ge k h m e (by omega) hm (hes e mem_cons_self)]
    exact ih (fun e' he' => hes e' (mem_cons_of_mem _ he'))

/-- skipping is safe: a full list whose largest distance `m` is below every distance of `es` is left unchanged (in `scanCell`:
`m < minDist2 c x ≤ ‖x - p‖²`) -/
theorem skip_safe (k : ℕ) (h : List (ℚ × ℕ)) (m : ℚ × ℕ) (hlen : h.length = k)
    (hm : h.getLast? = some m) (es : List (ℚ × ℕ)) (hes : ∀ e ∈ es, m.1 < e.1) :
    es.foldl (insertK k) h = h :=
  skip_safe_le k h m hlen hm es (fun e he => (hes e he).le)

theorem scan_parts_eq (s : Space) (k pid : ℕ) (ps : List ℕ) (h : List (ℚ × ℕ)) :
    ps.foldl (fun h q => if q == pid then h else insertK k h (V3.norm2 (s.pos[pid]! - s.pos[q]!), q)) h =
      ((ps.filter (fun q => !(q == pid))).map fun q => (V3.norm2 (s.pos[pid]! - s.pos[q]!), q)).foldl (insertK k) h := by
  rw [foldl_map, foldl_filter]
  congr
  funext x y
  cases y == pid <;> rfl

theorem scanCell_skip_sound (s : Space) (k pid : ℕ) (h : List (ℚ × ℕ)) (m : ℚ × ℕ) (c : GCell)
    (hw : 0 ≤ c.width.x ∧ 0 ≤ c.width.y ∧ 0 ≤ c.width.z)
    (hbox : ∀ q ∈ c.parts, InBox c s.pos[q]!)
    (hlen : h.length = k) (hm : h.getLast? = some m) (hskip : m.1 < minDist2 c s.pos[pid]!) :
    c.parts.foldl (fun h q => if q == pid then h else insertK k h (V3.norm2 (s.pos[pid]! - s.pos[q]!), q)) h = h := by
  rw [scan_parts_eq]
  apply skip_safe_le k h m hlen hm
  intro e he
  obtain ⟨q, hq, rfl⟩ := mem_map.1 he
  exact hskip.le.trans (V3.norm2_sub_comm (K := ℚ) _ _ ▸ minDist2_lower_bound c _ _ hw (hbox q (mem_filter.1 hq).1))

/-- with correct cell boxes the early exit of `scanCell` changes nothing -/
theorem scanCell_eq_noskip (s : Space) (k pid : ℕ) (h : List (ℚ × ℕ)) (c : GCell)
    (hw : 0 ≤ c.width.x ∧ 0 ≤ c.width.y ∧ 0 ≤ c.width.z) (hbox : ∀ q ∈ c.parts, InBox c s.pos[q]!) :
    scanCell s k pid h c =
      c.parts.foldl (fun h q => if q == pid then h else insertK k h (V3.norm2 (s.pos[pid]! - s.pos[q]!), q)) h := by
  unfold scanCell
  cases hm : h.getLast? with
  | none => rfl
  | some m =>
    simp only
    split_ifs with hc
    · rw [Bool.and_eq_true, beq_iff_eq, decide_eq_true_eq] at hc
      exact (scanCell_skip_sound s k pid h m c hw hbox hc.1 hm hc.2).symm
    · rfl

/-- one axis: cells `[lo + i w, lo + (i+1) w]`, `x` in cell `i` at least `δ` from both faces, `p` in cell `j` -/
theorem ring_bound_1d (lo w x p δ : ℚ) (i j : ℤ) (r : ℕ) (hw : 0 < w)
    (hδ1 : δ ≤ x - (lo + i * w)) (hδ2 : δ ≤ lo + (i + 1) * w - x)
    (hp1 : lo + j * w ≤ p) (hp2 : p ≤ lo + (j + 1) * w) (hr : (r : ℤ) + 1 ≤ |j - i|) :
    δ + r * w ≤ |p - x| := by
  rcases le_abs'.1 hr with h | h
  · have h1 : (j : ℚ) - i ≤ -((r : ℚ) + 1) := by exact_mod_cast h
    have := mul_le_mul_of_nonneg_right h1 hw.le
    exact le_trans (by linarith) (neg_le_abs _)
  · have h1 : ((r : ℚ) + 1) ≤ (j : ℚ) - i := by exact_mod_cast h
    have := mul_le_mul_of_nonneg_right h1 hw.le
    exact le_trans (by linarith) (le_abs_self _)

theorem sq_le_norm2_of_axis (v : Q3) (m : ℚ) (h0 : 0 ≤ m) (h : m ≤ |v.x| ∨ m ≤ |v.y| ∨ m ≤ |v.z|) : m ^ 2 ≤ V3.norm2 v := by
  have hsq : ∀ {t : ℚ}, m ≤ |t| → m ^ 2 ≤ t ^ 2 := fun h => (pow_le_pow_left₀ h0 h 2).trans_eq (sq_abs _)
  show m ^ 2 ≤ v.x * v.x + v.y * v.y + v.z * v.z
  rcases h with h | h | h <;> linarith [hsq h, sq_nonneg v.x, sq_nonneg v.y, sq_nonneg v.z]

/-- `x` in cell `(i₁,i₂,i₃)` at least `δ` from all six faces, `p` in a cell at least `r + 1` indices away on some axis:
once the `k`-th distance is below this bound no farther ring can contribute -/
theorem ring_bound_3d (lo w x p : Q3) (δ minw : ℚ) (i1 i2 i3 j1 j2 j3 : ℤ) (r : ℕ)
    (hwx : 0 < w.x) (hwy : 0 < w.y) (hwz : 0 < w.z) (hδ : 0 ≤ δ) (hmw : 0 ≤ minw)
    (hmx : minw ≤ w.x) (hmy : minw ≤ w.y) (hmz : minw ≤ w.z)
    (hx1 : δ ≤ x.x - (lo.x + i1 * w.x)) (hx2 : δ ≤ lo.x + (i1 + 1) * w.x - x.x)
    (hy1 : δ ≤ x.y - (lo.y + i2 * w.y)) (hy2 : δ ≤ lo.y + (i2 + 1) * w.y - x.y)
    (hz1 : δ ≤ x.z - (lo.z + i3 * w.z)) (hz2 : δ ≤ lo.z + (i3 + 1) * w.z - x.z)
    (hpx : lo.x + j1 * w.x ≤ p.x ∧ p.x ≤ lo.x + (j1 + 1) * w.x)
    (hpy : lo.y + j2 * w.y ≤ p.y ∧ p.y ≤ lo.y + (j2 + 1) * w.y)
    (hpz : lo.z + j3 * w.z ≤ p.z ∧ p.z ≤ lo.z + (j3 + 1) * w.z)
    (hr : (r : ℤ) + 1 ≤ |j1 - i1| ∨ (r : ℤ) + 1 ≤ |j2 - i2| ∨ (r : ℤ) + 1 ≤ |j3 - i3|) :
    (δ + r * minw) ^ 2 ≤ V3.norm2 (p - x) := by
  have hr0 : (0 : ℚ) ≤ r := Nat.cast_nonneg r
  -- the smallest width may stand for the width of any axis
  have hmin : ∀ {wa t : ℚ}, minw ≤ wa → δ + r * wa ≤ t → δ + r * minw ≤ t := fun hwa ht =>
    (add_le_add le_rfl (mul_le_mul_of_nonneg_left hwa hr0)).trans ht
  apply sq_le_norm2_of_axis _ _ (add_nonneg hδ (mul_nonneg hr0 hmw))
  exact hr.imp (fun h => hmin hmx (ring_bound_1d lo.x w.x x.x p.x δ i1 j1 r hwx hx1 hx2 hpx.1 hpx.2 h))
    (Or.imp (fun h => hmin hmy (ring_bound_1d lo.y w.y x.y p.y δ i2 j2 r hwy hy1 hy2 hpy.1 hpy.2 h))
      (fun h => hmin hmz (ring_bound_1d lo.z w.z x.z p.z δ i3 j3 r hwz hz1 hz2 hpz.1 hpz.2 h)))

theorem minDistToFace_le (c : GCell) (p : Q3) :
    (minDistToFace c p ≤ p.x - c.loc.x ∧ minDistToFace c p ≤ c.loc.x + c.width.x - p.x) ∧
    (minDistToFace c p ≤ p.y - c.loc.y ∧ minDistToFace c p ≤ c.loc.y + c.width.y - p.y) ∧
    (minDistToFace c p ≤ p.z - c.loc.z ∧ minDistToFace c p ≤ c.loc.z + c.width.z - p.z) := by
  simp only [minDistToFace, min_le_iff, le_refl, true_or, or_true, and_self]

theorem minDistToFace_nonneg (c : GCell) (p : Q3) (h : InBox c p) : 0 ≤ minDistToFace c p := by
  obtain ⟨⟨a1, a2⟩, ⟨b1, b2⟩, ⟨c1, c2⟩⟩ := h
  simp only [minDistToFace, le_min_iff, sub_nonneg]
  exact ⟨⟨⟨a1, by linarith⟩, b1, by linarith⟩, c1, by linarith⟩

/-- the ring bound in the terms of `knnLoop`: a point of `B` is at least `min_distance_to_face + r · (smallest width)` away
from a point of `A`, if `B` is more than `r` rings from `A` -/
theorem ring_bound_cells (A B : GCell) (lo x p : Q3) (i1 i2 i3 j1 j2 j3 r : ℕ)
    (hA : A.loc = ⟨lo.x + i1 * A.width.x, lo.y + i2 * A.width.y, lo.z + i3 * A.width.z⟩)
    (hB : B.loc = ⟨lo.x + j1 * A.width.x, lo.y + j2 * A.width.y, lo.z + j3 * A.width.z⟩) (hBw : B.width = A.width)
    (hw : 0 < A.width.x ∧ 0 < A.width.y ∧ 0 < A.width.z) (hx : InBox A x) (hp : InBox B p)
    (hr : r + 1 ≤ max (max ((j1 : ℤ) - i1).natAbs ((j2 : ℤ) - i2).natAbs) ((j3 : ℤ) - i3).natAbs) :
    (minDistToFace A x + r * min (min A.width.x A.width.y) A.width.z) ^ 2 ≤ V3.norm2 (p - x) := by
  obtain ⟨⟨m1, m2⟩, ⟨m3, m4⟩, ⟨m5, m6⟩⟩ := minDistToFace_le A x
  obtain ⟨⟨q1, q2⟩, ⟨q3, q4⟩, ⟨q5, q6⟩⟩ := hp
  simp only [hB, hBw] at q1 q2 q3 q4 q5 q6
  simp only [hA] at m1 m2 m3 m4 m5 m6
  have habs : ∀ {n : ℤ}, r + 1 ≤ n.natAbs → (r : ℤ) + 1 ≤ |n| := fun h => by
    rw [Int.abs_eq_natAbs]; exact_mod_cast h
  rw [le_max_iff, le_max_iff, or_assoc] at hr
  -- `ring_bound_3d` with natural indices, and `i * w + w` for `(i + 1) * w`
  have key := ring_bound_3d lo A.width x p (minDistToFace A x) (min (min A.width.x A.width.y) A.width.z) i1 i2 i3 j1 j2 j3 r
  simp only [Int.cast_natCast, add_one_mul, ← add_assoc] at key
  exact key hw.1 hw.2.1 hw.2.2 (minDistToFace_nonneg A x hx) (le_min (le_min hw.1.le hw.2.1.le) hw.2.2.le)
    ((min_le_left _ _).trans (min_le_left _ _)) ((min_le_left _ _).trans (min_le_right _ _)) (min_le_right _ _)
    m1 m2 m3 m4 m5 m6 ⟨q1, q2⟩ ⟨q3, q4⟩ ⟨q5, q6⟩ (hr.imp habs (Or.imp habs habs))

/-- three particles on a line in the box `[0,1] × [0,6] × [0,1]` -/
def posW : Array Q3 := #[⟨1/2, 41/10, 1/2⟩, ⟨1/2, 39/10, 1/2⟩, ⟨1/2, 46/10, 1/2⟩]
/-- the grid of the pinned tree (`max_cell_width = 2`: `1 × 3 × 1` cells of size `1 × 2 × 1`, placed with `c_width.x`) -/
def spF : Space := mkSpace false ⟨0, 0, 0⟩ ⟨1, 6, 1⟩ 2 posW
def spT : Space := mkSpace true ⟨0, 0, 0⟩ ⟨1, 6, 1⟩ 2 posW

/-- in the pinned tree particle `1` (at `y = 3.9`) is stored in cell `1`, whose recorded box is `y ∈ [1, 3]`, and the
"lower bound" `minDist2` of that cell w.r.t. particle `0` exceeds the true squared distance `1/25` -/
theorem pinned_lower_bound_fails :
    spF.cwidth = ⟨1, 2, 1⟩ ∧ spF.cells[1]!.loc = ⟨0, 1, 0⟩ ∧ spF.cells[1]!.parts = [1] ∧
    ¬ InBox spF.cells[1]! posW[1]! ∧
    minDist2 spF.cells[1]! posW[0]! = 121 / 100 ∧ V3.norm2 (posW[1]! - posW[0]!) = 1 / 25 ∧
    V3.norm2 (posW[1]! - posW[0]!) < minDist2 spF.cells[1]! posW[0]! := by
  unfold InBox
  decide +kernel

/-- with the componentwise placement the hypothesis of `minDist2_lower_bound` holds for the same particle and cell -/
theorem fixed_inBox : spT.cells[1]!.loc = ⟨0, 2, 0⟩ ∧ spT.cells[1]!.parts = [1] ∧ InBox spT.cells[1]! posW[1]! ∧
    minDist2 spT.cells[1]! posW[0]! ≤ V3.norm2 (posW[1]! - posW[0]!) := by
  have hb : InBox spT.cells[1]! posW[1]! := by unfold InBox; decide +kernel
  exact ⟨by decide +kernel, by decide +kernel, hb, minDist2_lower_bound _ _ _ (by decide +kernel) hb⟩

/-- the pinned tree's `knn(1)` returns for particle `0` particle `2` at squared distance `1/4` although particle `1` is at
`1/25`: cell `1` is skipped because of the wrong lower bound.  Evaluation goes through only because `k = 1` keeps every list
handed to `mergeSort` a singleton (see `knnSpec_witness`). -/
theorem pinned_knn_wrong : knn spF 1 = [[(1 / 4, 2)], [(1 / 25, 0)], [(1 / 4, 0)]] := by decide +kernel

theorem fixed_knn_right : knn spT 1 = [[(1 / 25, 1)], [(1 / 25, 0)], [(1 / 4, 0)]] := by decide +kernel

/-- Not `decide +kernel` like its neighbours: the kernel gets stuck on `List.mergeSort` (well-founded recursion) for lists
of two or more elements, so the three sorted lists are supplied by hand. -/
theorem knnSpec_witness : knnSpec posW 1 = [[1 / 25], [1 / 25], [1 / 4]] := by
  have h0 : List.range posW.size = [0, 1, 2] := by decide +kernel
  have p0 : ((List.range posW.size).filter (· != 0)).map (fun q => V3.norm2 (posW[0]! - posW[q]!))
      = [1 / 25, 1 / 4] := by decide +kernel
  have p1 : ((List.range posW.size).filter (· != 1)).map (fun q => V3.norm2 (posW[1]! - posW[q]!))
      = [1 / 25, 49 / 100] := by decide +kernel
  have p2 : ((List.range posW.size).filter (· != 2)).map (fun q => V3.norm2 (posW[2]! - posW[q]!))
      = [1 / 4, 49 / 100] := by decide +kernel
  have s0 : sortQ [1 / 25, 1 / 4] = [1 / 25, 1 / 4] := mergeSort_eq_self _ (pairwise_pair.2 (by norm_num))
  have s1 : sortQ [1 / 25, 49 / 100] = [1 / 25, 49 / 100] := mergeSort_eq_self _ (pairwise_pair.2 (by norm_num))
  have s2 : sortQ [1 / 4, 49 / 100] = [1 / 4, 49 / 100] := mergeSort_eq_self _ (pairwise_pair.2 (by norm_num))
  unfold knnSpec
  rw [h0]
  simp only [List.map_cons, List.map_nil]
  rw [← h0, p0, p1, p2]
  unfold sortQ at s0 s1 s2
  rw [s0, s1, s2]
  rfl

/-- on a non-cubic grid the pinned tree's `knn` disagrees with the specification, the componentwise placement agrees -/
theorem pinned_knn_ne_spec :
    (knn spF 1).map (fun h => h.map (·.1)) ≠ knnSpec posW 1 ∧
    (knn spT 1).map (fun h => h.map (·.1)) = knnSpec posW 1 := by
  rw [pinned_knn_wrong, fixed_knn_right, knnSpec_witness]
  exact ⟨by decide +kernel, rfl⟩

/-- non-vacuity of `minDist2_lower_bound` -/
example : minDist2 ⟨⟨0, 0, 0⟩, ⟨1, 1, 1⟩, []⟩ ⟨2, 1 / 2, 1 / 2⟩ = 1 ∧
    InBox ⟨⟨0, 0, 0⟩, ⟨1, 1, 1⟩, []⟩ ⟨1, 1 / 2, 1 / 2⟩ := by
  refine ⟨by decide +kernel, ?_⟩
  unfold InBox; norm_num

/-- non-vacuity of `foldl_insertK_nil` (sorted by hand, as in `knnSpec_witness`) -/
example : (([(3, 0), (1, 1), (2, 2)] : List (ℚ × ℕ)).foldl (insertK 2) []).map (·.1) = [1, 2] := by
  rw [(foldl_insertK_nil 2 (by norm_num) _).2.2]
  have : sortQ [3, 1, 2] = [1, 2, 3] := by
    apply mergeSort_eq_of_perm
    · exact (List.Perm.swap _ _ _).trans ((List.Perm.swap _ _ _).cons _)
    · simp; norm_num
  unfold sortQ at this
  simp only [List.map_cons, List.map_nil]
  rw [this]; rfl

/-- non-vacuity of `skip_safe` -/
example : ([((3 : ℚ), 5)] : List (ℚ × ℕ)).foldl (insertK 2) [(1, 0), (2, 1)] = [(1, 0), (2, 1)] :=
  skip_safe 2 _ (2, 1) rfl rfl _ (by intro e he; rw [List.mem_singleton] at he; subst he; norm_num)

/-- non-vacuity of `ring_bound_1d`: unit cells, `x = ½` in cell `0`, `p = 2` in cell `2`, `r = 1` -/
example : (1 / 2 : ℚ) + (1 : ℕ) * 1 ≤ |(2 : ℚ) - 1 / 2| :=
  ring_bound_1d 0 1 (1 / 2) 2 (1 / 2) 0 2 1 (by norm_num) (by norm_num) (by norm_num) (by norm_num)
    (by norm_num) (by norm_num)

end MVoro.KnnProofs

#print axioms MVoro.KnnProofs.clampAxis_mem
#print axioms MVoro.KnnProofs.clampAxis_closest
#print axioms MVoro.KnnProofs.minDist2_lower_bound
#print axioms MVoro.KnnProofs.closestLoc_inBox
#print axioms MVoro.KnnProofs.insertK_spec
#print axioms MVoro.KnnProofs.insertK_length_le
#print axioms MVoro.KnnProofs.smallest_append
#print axioms MVoro.KnnProofs.foldl_insertK_spec
#print axioms MVoro.KnnProofs.foldl_insertK_nil
#print axioms MVoro.KnnProofs.foldl_insertK_subset
#print axioms MVoro.KnnProofs.skip_safe_le
#print axioms MVoro.KnnProofs.skip_safe
#print axioms MVoro.KnnProofs.scanCell_skip_sound
#print axioms MVoro.KnnProofs.scanCell_eq_noskip
#print axioms MVoro.KnnProofs.ring_bound_1d
#print axioms MVoro.KnnProofs.ring_bound_3d
#print axioms MVoro.KnnProofs.pinned_lower_bound_fails
#print axioms MVoro.KnnProofs.fixed_inBox
#print axioms MVoro.KnnProofs.pinned_knn_wrong
#print axioms MVoro.KnnProofs.fixed_knn_right
#print axioms MVoro.KnnProofs.knnSpec_witness
#print axioms MVoro.KnnProofs.pinned_knn_ne_spec
