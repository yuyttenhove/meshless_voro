/-
C08 (T08.1): the input handling of the builders (`Oracle.normalise` = the axis normalisation block of
`build_internal` / `VoronoiIntegrator::build`, `Oracle.projectGen` = `Generator::new`) factors through the
active coordinates: two inputs that agree there are normalised to the SAME internal problem.  Everything downstream
(`Oracle.buildCell`, candidates, planes) is a function of the normalised input only.
-/
import MVoro.Model.Oracle
namespace MVoro.LowDim
open MVoro MVoro.Oracle

def AgreeOn (dim : Nat) (p q : Q3) : Prop :=
  p.x = q.x ∧ (2 ≤ dim → p.y = q.y) ∧ (3 ≤ dim → p.z = q.z)

theorem projectGen_indep (dim : Nat) (hd : dim = 1 ∨ dim = 2 ∨ dim = 3) (g g' : Q3) (h : AgreeOn dim g g') :
    projectGen dim g = projectGen dim g' := by
  obtain ⟨hx, hy, hz⟩ := h
  cases g; cases g'
  rcases hd with rfl | rfl | rfl <;> simp_all [projectGen]

theorem normalise_indep (dim : Nat) (hd : dim = 1 ∨ dim = 2 ∨ dim = 3) (a a' w w' : Q3)
    (ha : AgreeOn dim a a') (hw : AgreeOn dim w w') :
    normalise dim a w = normalise dim a' w' := by
  obtain ⟨hax, hay, haz⟩ := ha
  obtain ⟨hwx, hwy, hwz⟩ := hw
  cases a; cases a'; cases w; cases w'
  rcases hd with rfl | rfl | rfl <;> simp_all [normalise]

theorem norm_indep (t t' : TessIn) (hdim : t.dim = t'.dim) (hd : t.dim = 1 ∨ t.dim = 2 ∨ t.dim = 3)
    (hper : t.periodic = t'.periodic) (ha : AgreeOn t.dim t.anchor t'.anchor) (hw : AgreeOn t.dim t.width t'.width)
    (hsz : t.gens.size = t'.gens.size)
    (hg : ∀ i (h : i < t.gens.size), AgreeOn t.dim t.gens[i] (t'.gens[i]'(hsz ▸ h))) :
    t.norm = t'.norm := by
  obtain ⟨d, p, a, w, gs⟩ := t
  obtain ⟨d', p', a', w', gs'⟩ := t'
  subst hdim hper
  have hgens : gs.map (projectGen d) = gs'.map (projectGen d) :=
    Array.ext (by simpa using hsz) fun i h1 _ => by
      simpa using projectGen_indep d hd _ _ (hg i (by simpa using h1))
  simp only [TessIn.norm, normalise_indep d hd _ _ _ _ ha hw, hgens]

/-- the unused coordinates of the normalised problem: generators at 0, box `[-1/2, 1/2]` -/
theorem norm_unused_1d (t : TessIn) (h : t.dim = 1) :
    t.norm.anchor.y = -1/2 ∧ t.norm.anchor.z = -1/2 ∧ t.norm.width.y = 1 ∧ t.norm.width.z = 1 ∧
    ∀ g ∈ t.norm.gens, g.y = 0 ∧ g.z = 0 := by
  refine ⟨?_, ?_, ?_, ?_, ?_⟩ <;> simp [TessIn.norm, normalise, h, projectGen]

theorem norm_unused_2d (t : TessIn) (h : t.dim = 2) :
    t.norm.anchor.z = -1/2 ∧ t.norm.width.z = 1 ∧ ∀ g ∈ t.norm.gens, g.z = 0 := by
  refine ⟨?_, ?_, ?_⟩ <;> simp [TessIn.norm, normalise, h, projectGen]

/-- two inputs (rubbish in y, z) with the same normal form -/
example : (TessIn.norm ⟨1, false, ⟨0, 7, -3⟩, ⟨2, 9, 1/3⟩, #[⟨1/2, 5, 5⟩, ⟨1, -8, 0⟩]⟩)
        = (TessIn.norm ⟨1, false, ⟨0, 0, 0⟩, ⟨2, 1, 1⟩, #[⟨1/2, 0, 0⟩, ⟨1, 0, 0⟩]⟩) := by
  simp [TessIn.norm, normalise, projectGen]

end MVoro.LowDim
