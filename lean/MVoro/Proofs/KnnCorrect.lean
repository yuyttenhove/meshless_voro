/-
C20 (T20.1): the ring loop of the uniform-grid k-nearest-neighbour search (`Space::knn`, model `Knn.knnLoop`) returns, in
increasing order, exactly the `k` smallest distances to the other particles, for every grid with

* `hbox`  every particle registered in a cell lies in the box `[loc, loc + width]` of that cell (false for the pinned
          tree's placement on non-cubic boxes, `pinned_lower_bound_fails`);
* `hend`  from some ring `R ≤ fuel` on the rings are empty;
* `hfar`  a particle registered in a cell of ring `r' > r` is at least `dist_to_face + r · min width` away (the conclusion
          of `KnnProofs.ring_bound_cells`);
* `hpart` the cells of the rings hold every particle exactly once (only for the result against the brute-force specification).

Whatever the early exits (skipped cells, termination test) do, the result equals the plain fold of `insertK` over ALL
particles of ALL rings (`knnLoop_eq_fold`).  That `mkSpace true` produces such a grid is proved in `GridWF`, `RingWF` and
`KnnFull` (`knn_mkSpace_eq_spec`); the driver checks `hbox` and the partition property (`gridOK`) on every grid it builds.
-/
import MVoro.Proofs.KnnProofs

namespace MVoro.KnnCorrect
open MVoro MVoro.Knn MVoro.KnnProofs List

variable (s : Space) (k pid cid : ℕ)

def cellEntries (c : GCell) : List (ℚ × ℕ) :=
  (c.parts.filter (fun q => !(q == pid))).map fun q => (V3.norm2 (s.pos[pid]! - s.pos[q]!), q)

def entries (cs : List ℕ) : List (ℚ × ℕ) := cs.flatMap fun c => cellEntries s pid s.cells[c]!

/-- of the rings `r₀, r₀+1, …, r₀+n-1` -/
def ringEntries (r₀ n : ℕ) : List (ℚ × ℕ) := (List.range n).flatMap fun i => entries s pid (ring s cid (r₀ + i))

/-- `hbox`, `hend`, `hfar`, `hpart` for the ring loop around cell `cid` for particle `pid`; `d2f` is what `distToFace` holds -/
structure RingGrid (d2f : ℚ) (R : ℕ) : Prop where
  box : ∀ r, ∀ c ∈ ring s cid r, (0 ≤ s.cells[c]!.width.x ∧ 0 ≤ s.cells[c]!.width.y ∧ 0 ≤ s.cells[c]!.width.z) ∧
    ∀ q ∈ s.cells[c]!.parts, InBox s.cells[c]! s.pos[q]!
  ends : ∀ r, R ≤ r → ring s cid r = []
  far : ∀ r r', r < r' → ∀ e ∈ entries s pid (ring s cid r'),
    (d2f + r * min (min s.cwidth.x s.cwidth.y) s.cwidth.z) * (d2f + r * min (min s.cwidth.x s.cwidth.y) s.cwidth.z) ≤ e.1
  part : ((List.range R).flatMap fun r => (ring s cid r).flatMap fun c => s.cells[c]!.parts) ~ List.range s.pos.size

theorem ringEntries_succ (r₀ n : ℕ) :
    ringEntries s pid cid r₀ (n + 1) = ringEntries s pid cid r₀ n ++ entries s pid (ring s cid (r₀ + n)) := by
  unfold ringEntries
  rw [List.range_succ, flatMap_append, flatMap_singleton]

theorem ringEntries_add (r₀ n m : ℕ) :
    ringEntries s pid cid r₀ (n + m) = ringEntries s pid cid r₀ n ++ ringEntries s pid cid (r₀ + n) m := by
  induction m with
  | zero => simp [ringEntries]
  | succ m ih => rw [← Nat.add_assoc, ringEntries_succ, ih, ringEntries_succ, append_assoc, Nat.add_assoc]

theorem scan_ring_eq (cs : List ℕ) (h : List (ℚ × ℕ))
    (hbox : ∀ c ∈ cs, (0 ≤ s.cells[c]!.width.x ∧ 0 ≤ s.cells[c]!.width.y ∧ 0 ≤ s.cells[c]!.width.z) ∧
      ∀ q ∈ s.cells[c]!.parts, InBox s.cells[c]! s.pos[q]!) :
    cs.foldl (fun h c => scanCell s k pid h s.cells[c]!) h = (entries s pid cs).foldl (insertK k) h := by
  induction cs generalizing h with
  | nil => rfl
  | cons c cs ih =>
    have hc := hbox c mem_cons_self
    rw [foldl_cons, scanCell_eq_noskip s k pid h _ hc.1 hc.2, scan_parts_eq, ih _ (fun c' hc' => hbox c' (mem_cons_of_mem _ hc'))]
    unfold entries
    rw [flatMap_cons, foldl_append]
    rfl

theorem fold_state (hk : 0 < k) (es : List (ℚ × ℕ)) :
    Sorted (es.foldl (insertK k) []) ∧ (es.foldl (insertK k) []).length = min k es.length :=
  ⟨(foldl_insertK_nil k hk es).1, (foldl_insertK_nil k hk es).2.1⟩

/-- started after the rings `< r` have been folded, the ring loop returns the fold over all rings up to `R` -/
theorem knnLoop_eq_fold (hk : 0 < k) (d2f : ℚ) (R : ℕ)
    (hbox : ∀ r, ∀ c ∈ ring s cid r, (0 ≤ s.cells[c]!.width.x ∧ 0 ≤ s.cells[c]!.width.y ∧ 0 ≤ s.cells[c]!.width.z) ∧
      ∀ q ∈ s.cells[c]!.parts, InBox s.cells[c]! s.pos[q]!)
    (hend : ∀ r, R ≤ r → ring s cid r = [])
    (hfar : ∀ r r', r < r' → ∀ e ∈ entries s pid (ring s cid r'),
      (d2f + r * min (min s.cwidth.x s.cwidth.y) s.cwidth.z) * (d2f + r * min (min s.cwidth.x s.cwidth.y) s.cwidth.z) ≤ e.1) :
    ∀ (fuel r : ℕ), R ≤ r + fuel →
      knnLoop s k pid cid d2f fuel r ((ringEntries s pid cid 0 r).foldl (insertK k) []) =
        (ringEntries s pid cid 0 (max R r)).foldl (insertK k) [] := by
  -- rings from `R` on are empty: the entries of the first `n ≥ R` rings are those of the first `R`
  have hstable : ∀ n, R ≤ n → ringEntries s pid cid 0 n = ringEntries s pid cid 0 R := by
    intro n hn
    obtain ⟨m, rfl⟩ := Nat.exists_eq_add_of_le hn
    rw [ringEntries_add, append_right_eq_self]
    refine flatMap_eq_nil_iff.2 fun i _ => ?_
    rw [hend _ (by omega)]
    rfl
  simp only [fun r => hstable (max R r) (le_max_left R r)]
  intro fuel
  induction fuel with
  | zero =>
    intro r hr
    rw [hstable r hr]
    rfl
  | succ fuel ih =>
    intro r hr
    unfold knnLoop
    simp only
    rw [scan_ring_eq s k pid (ring s cid r) _ (hbox r), ← foldl_append]
    have hstep : ringEntries s pid cid 0 r ++ entries s pid (ring s cid r) = ringEntries s pid cid 0 (r + 1) := by
      rw [ringEntries_succ, Nat.zero_add]
    rw [hstep]
    set h := (ringEntries s pid cid 0 (r + 1)).foldl (insertK k) [] with hh
    cases hm : h.getLast? with
    | none => exact ih (r + 1) (by omega)
    | some m =>
      simp only
      split_ifs with hc
      · -- early exit: by `hfar` every ring beyond `r` holds nothing nearer than the current `k`-th distance
        rw [Bool.and_eq_true, beq_iff_eq, decide_eq_true_eq] at hc
        rw [← hstable (r + 1 + R) (by omega), ringEntries_add, foldl_append, ← hh]
        symm
        apply skip_safe_le k h m hc.1 hm
        intro e he
        obtain ⟨i, _, hei⟩ := mem_flatMap.1 he
        exact (le_of_lt hc.2).trans (hfar r (0 + (r + 1) + i) (by omega) e hei)
      · exact ih (r + 1) (by omega)

/-- T20.1: the loop returns a list sorted by distance whose distances are the `k` smallest among all entries of all rings -/
theorem knnLoop_correct (hk : 0 < k) (d2f : ℚ) (R fuel : ℕ) (hfuel : R ≤ fuel)
    (hbox : ∀ r, ∀ c ∈ ring s cid r, (0 ≤ s.cells[c]!.width.x ∧ 0 ≤ s.cells[c]!.width.y ∧ 0 ≤ s.cells[c]!.width.z) ∧
      ∀ q ∈ s.cells[c]!.parts, InBox s.cells[c]! s.pos[q]!)
    (hend : ∀ r, R ≤ r → ring s cid r = [])
    (hfar : ∀ r r', r < r' → ∀ e ∈ entries s pid (ring s cid r'),
      (d2f + r * min (min s.cwidth.x s.cwidth.y) s.cwidth.z) * (d2f + r * min (min s.cwidth.x s.cwidth.y) s.cwidth.z) ≤ e.1) :
    let res := knnLoop s k pid cid d2f fuel 0 []
    let all := ringEntries s pid cid 0 R
    Sorted res ∧ res.length = min k all.length ∧ dists res = smallest k (dists all) ∧ (∀ a ∈ res, a ∈ all) := by
  have h : knnLoop s k pid cid d2f fuel 0 [] = (ringEntries s pid cid 0 R).foldl (insertK k) [] :=
    Nat.max_zero R ▸ knnLoop_eq_fold s k pid cid hk d2f R hbox hend hfar fuel 0 (by omega)
  simp only
  rw [h]
  obtain ⟨h1, h2, h3⟩ := foldl_insertK_nil k hk (ringEntries s pid cid 0 R)
  exact ⟨h1, h2, h3, fun a ha => (foldl_insertK_subset k _ [] a ha).resolve_left not_mem_nil⟩

/-- with `hpart` the entries are one per OTHER particle -/
theorem ringEntries_perm (R : ℕ)
    (hpart : ((List.range R).flatMap fun r => (ring s cid r).flatMap fun c => s.cells[c]!.parts) ~ List.range s.pos.size) :
    ringEntries s pid cid 0 R ~
      ((List.range s.pos.size).filter (· != pid)).map fun q => (V3.norm2 (s.pos[pid]! - s.pos[q]!), q) := by
  have e : ringEntries s pid cid 0 R =
      (((List.range R).flatMap fun r => (ring s cid r).flatMap fun c => s.cells[c]!.parts).filter (· != pid)).map
        fun q => (V3.norm2 (s.pos[pid]! - s.pos[q]!), q) := by
    unfold ringEntries entries cellEntries
    simp only [Nat.zero_add, map_flatMap, filter_flatMap, bne]
  rw [e]
  exact (hpart.filter _).map _

/-- T20.1 against the brute-force specification `knnSpec` -/
theorem knnLoop_eq_spec (hk : 0 < k) (d2f : ℚ) (R fuel : ℕ) (hfuel : R ≤ fuel)
    (hbox : ∀ r, ∀ c ∈ ring s cid r, (0 ≤ s.cells[c]!.width.x ∧ 0 ≤ s.cells[c]!.width.y ∧ 0 ≤ s.cells[c]!.width.z) ∧
      ∀ q ∈ s.cells[c]!.parts, InBox s.cells[c]! s.pos[q]!)
    (hend : ∀ r, R ≤ r → ring s cid r = [])
    (hfar : ∀ r r', r < r' → ∀ e ∈ entries s pid (ring s cid r'),
      (d2f + r * min (min s.cwidth.x s.cwidth.y) s.cwidth.z) * (d2f + r * min (min s.cwidth.x s.cwidth.y) s.cwidth.z) ≤ e.1)
    (hpart : ((List.range R).flatMap fun r => (ring s cid r).flatMap fun c => s.cells[c]!.parts) ~ List.range s.pos.size) :
    dists (knnLoop s k pid cid d2f fuel 0 []) =
      ((((List.range s.pos.size).filter (· != pid)).map fun q => V3.norm2 (s.pos[pid]! - s.pos[q]!)).mergeSort (· ≤ ·)).take k := by
  rw [(knnLoop_correct s k pid cid hk d2f R fuel hfuel hbox hend hfar).2.2.1]
  have h := (ringEntries_perm s pid cid R hpart).map (·.1)
  rw [map_map] at h
  exact congrArg (take k) (mergeSort_eq_of_perm (h.trans (mergeSort_perm _ _).symm) (pairwise_mergeSort' _ _))

/-- the result has `min k (n - 1)` entries, each `(squared distance to q, q)` for another particle `q` -/
theorem knnLoop_entries (hk : 0 < k) (d2f : ℚ) (R fuel : ℕ) (hfuel : R ≤ fuel) (hp : pid < s.pos.size)
    (hg : RingGrid s pid cid d2f R) :
    let res := knnLoop s k pid cid d2f fuel 0 []
    Sorted res ∧ res.length = min k (s.pos.size - 1) ∧
      ∀ e ∈ res, e.2 < s.pos.size ∧ e.2 ≠ pid ∧ e.1 = V3.norm2 (s.pos[pid]! - s.pos[e.2]!) := by
  obtain ⟨h1, h2, _, h4⟩ := knnLoop_correct s k pid cid hk d2f R fuel hfuel hg.box hg.ends hg.far
  have hperm := ringEntries_perm s pid cid R hg.part
  refine ⟨h1, ?_, fun e he => ?_⟩
  · rw [h2, hperm.length_eq, length_map, ← List.nodup_range.erase_eq_filter, length_erase_of_mem (mem_range.2 hp), length_range]
  · obtain ⟨q, hq, rfl⟩ := mem_map.1 (hperm.mem_iff.1 (h4 e he))
    rw [mem_filter, mem_range, bne_iff_ne] at hq
    exact ⟨hq.1, hq.2, rfl⟩

theorem inBoxB_iff (c : GCell) (p : Q3) : inBoxB c p = true ↔ InBox c p := by
  simp only [inBoxB, InBox, Bool.and_eq_true, decide_eq_true_eq, and_assoc]

theorem gridOK_iff : gridOK s = true ↔
    (∀ c ∈ s.cells.toList, (0 ≤ c.width.x ∧ 0 ≤ c.width.y ∧ 0 ≤ c.width.z) ∧ ∀ q ∈ c.parts, InBox c s.pos[q]!) ∧
    (s.cells.toList.flatMap (·.parts)) ~ List.range s.pos.size := by
  simp only [gridOK, Bool.and_eq_true, List.all_eq_true, decide_eq_true_eq, inBoxB_iff, beq_iff_eq, and_assoc]
  exact and_congr_right fun _ =>
    ⟨fun h => h ▸ (mergeSort_perm _ _).symm, fun h => mergeSort_eq_of_perm h (List.pairwise_lt_range.imp Nat.le_of_lt)⟩

/-- the run-time certificate `Knn.gridOK` gives `hbox` for every cell and the partition property -/
theorem gridOK_sound (h : gridOK s = true) :
    (∀ c ∈ s.cells.toList, (0 ≤ c.width.x ∧ 0 ≤ c.width.y ∧ 0 ≤ c.width.z) ∧ ∀ q ∈ c.parts, InBox c s.pos[q]!) ∧
    (s.cells.toList.flatMap (·.parts)) ~ List.range s.pos.size :=
  (gridOK_iff s).1 h

end MVoro.KnnCorrect
