/-
Miscellaneous small properties:
* `MVoro.GridProofs`      (C10/C05) the position → grid map is monotone and stays inside `[0, 2^52)`;
* `MVoro.SchedProofs`     (C09) results of the parallel loops do not depend on the schedule;
* `MVoro.TypeStateProofs` (C15) unchecked reads of the face data never hit `None`; `with_faces` is rejected for 1D/2D.
-/
import MVoro.Model.Grid
import MVoro.Model.Sched
import MVoro.Model.TypeState
import Mathlib.Tactic.Ring
import Mathlib.Tactic.Linarith
import Mathlib.Tactic.Positivity
import Mathlib.Tactic.NormNum
import Mathlib.Tactic.FieldSimp
import Mathlib.Algebra.Order.Field.Rat
import Mathlib.Data.List.Perm.Basic

namespace MVoro.GridProofs

open MVoro.Grid

section
variable (pad span A W G x y : Rat)

theorem rescaleExactG_sub :
    rescaleExactG pad span A W G y - rescaleExactG pad span A W G x = (y - x) / (span * G) := by
  unfold rescaleExactG; ring

theorem rescaleExactG_lo : rescaleExactG pad span A W G (A - W) = 1 + (pad - 1) / span * (W / G) := by
  unfold rescaleExactG; ring

theorem rescaleExactG_hi : rescaleExactG pad span A W G (A + 2 * W) = 1 + (pad + 2) / span * (W / G) := by
  unfold rescaleExactG; ring

theorem rescaleExactG_le (hsG : 0 < span * G) (h : x ≤ y) : rescaleExactG pad span A W G x ≤ rescaleExactG pad span A W G y :=
  sub_nonneg.1 (rescaleExactG_sub .. ▸ div_nonneg (sub_nonneg.2 h) hsG.le)

theorem rescaleExactG_lt (hsG : 0 < span * G) (h : x < y) : rescaleExactG pad span A W G x < rescaleExactG pad span A W G y :=
  sub_pos.1 (rescaleExactG_sub .. ▸ div_pos (sub_pos.2 h) hsG)

/-- between the images of the ends of the queried range; the range lemmas below and those in `Obl/Grid` put parameters in -/
theorem rescaleExactG_range (hsG : 0 < span * G) (hlo : A - W ≤ x) (hhi : x ≤ A + 2 * W) :
    1 + (pad - 1) / span * (W / G) ≤ rescaleExactG pad span A W G x ∧
      rescaleExactG pad span A W G x ≤ 1 + (pad + 2) / span * (W / G) :=
  ⟨(rescaleExactG_lo ..).ge.trans (rescaleExactG_le _ _ _ _ _ _ _ hsG hlo),
    (rescaleExactG_le _ _ _ _ _ _ _ hsG hhi).trans (rescaleExactG_hi ..).le⟩

end

theorem rescaleExactG_self (pad span A W x : Rat) : rescaleExactG pad span A W W x = rescaleExact pad span A W x := rfl

/-- shared grid scale `G ≥ W`, repaired parameters pad = 3/2, span = 4: into `(1, 15/8]`, at least `W/(8G)` above 1 -/
theorem rescaleG_range_fixed (A W G x : Rat) (hW : 0 < W) (hG : W ≤ G) (hlo : A - W ≤ x) (hhi : x ≤ A + 2 * W) :
    1 + W / (8 * G) ≤ rescaleExactG (3 / 2) 4 A W G x ∧ rescaleExactG (3 / 2) 4 A W G x ≤ 15 / 8 := by
  have hG0 : 0 < G := hW.trans_le hG
  obtain ⟨h1, h2⟩ := rescaleExactG_range (3 / 2) 4 A W G x (mul_pos (by norm_num) hG0) hlo hhi
  exact ⟨le_of_eq_of_le (by ring) h1, h2.trans (by linarith only [(div_le_one hG0).2 hG])⟩

theorem rescaleG_margin (r r' : Rat) (hr : 1 < r ∧ r ≤ 15 / 8) (he : |r' - r| ≤ min (r - 1) (1 / 16)) :
    1 ≤ r' ∧ r' < 2 := by
  obtain ⟨e1, e2⟩ := abs_le.mp he
  exact ⟨by linarith only [e1, min_le_left (r - 1) (1 / 16)], by linarith only [e2, min_le_right (r - 1) (1 / 16), hr.2]⟩

theorem rescale_pinned_hi (A W : Rat) (hW : 0 < W) : rescaleExact 1 3 A W (A + 2 * W) = 2 := by
  rw [← rescaleExactG_self, rescaleExactG_hi, div_self hW.ne']
  norm_num

/-- pinned tree (pad = 1, span = 3): the mirror image through the upper wall of a generator on the
lower wall maps exactly to `2`, outside `[1, 2)` — witness of the defect. -/
theorem rescale_hits_two_pinned (A W : Rat) (hW : 0 < W) :
    rescaleExact 1 3 A W (mirrorHigh A W A) = 2 := by
  rw [show mirrorHigh A W A = A + 2 * W by unfold mirrorHigh; ring, rescale_pinned_hi A W hW]

/-- pinned tree: only the closed upper end fails. -/
theorem rescale_range_pinned (A W x : Rat) (hW : 0 < W) (hlo : A - W ≤ x) (hhi : x < A + 2 * W) :
    1 ≤ rescaleExact 1 3 A W x ∧ rescaleExact 1 3 A W x < 2 := by
  have hs : (0 : Rat) < 3 * W := mul_pos (by norm_num) hW
  have h := rescaleExactG_le 1 3 A W W _ _ hs hlo
  rw [rescaleExactG_lo, sub_self, zero_div, zero_mul, add_zero] at h
  exact ⟨h, (rescaleExactG_lt 1 3 A W W _ _ hs hhi).trans_eq (rescale_pinned_hi A W hW)⟩

/-- the queried positions: the generator's mirror images through both walls, and any position in the box -/
theorem queried_positions (A W g p : Rat) (hW : 0 < W) (hg : A ≤ g ∧ g ≤ A + W) (hp : A ≤ p ∧ p ≤ A + W) :
    (A - W ≤ mirrorLow A g ∧ mirrorLow A g ≤ A) ∧
    (A + W ≤ mirrorHigh A W g ∧ mirrorHigh A W g ≤ A + 2 * W) ∧
    (A - W ≤ p ∧ p ≤ A + 2 * W) := by
  obtain ⟨hg1, hg2⟩ := hg
  obtain ⟨hp1, hp2⟩ := hp
  unfold mirrorLow mirrorHigh
  refine ⟨⟨?_, ?_⟩, ⟨?_, ?_⟩, ⟨?_, ?_⟩⟩ <;> linarith

/-- periodic axis: the tripled box contains all 27-image positions, the generators sit in its middle third. -/
theorem tripled_contains_images (a w q g : Rat) (k : Int) (hw : 0 < w)
    (hq : a ≤ q ∧ q ≤ a + w) (hk : k = -1 ∨ k = 0 ∨ k = 1) (hg : a ≤ g ∧ g ≤ a + w) :
    ((tripled a w true).1 ≤ q + k * w ∧ q + k * w ≤ (tripled a w true).1 + (tripled a w true).2) ∧
    ((tripled a w true).1 + (tripled a w true).2 / 3 ≤ g ∧
      g ≤ (tripled a w true).1 + 2 * (tripled a w true).2 / 3) := by
  -- the tripled box is `[a - w, a + 2w]`; its middle third is `[a, a + w]`, and `-w ≤ k w ≤ w`
  rw [show tripled a w true = (a - w, 3 * w) from rfl]
  have hk' : (-1 : Rat) ≤ k ∧ (k : Rat) ≤ 1 := by rcases hk with rfl | rfl | rfl <;> norm_num
  have h1 := mul_le_mul_of_nonneg_right hk'.1 hw.le
  have h2 := mul_le_mul_of_nonneg_right hk'.2 hw.le
  exact ⟨⟨by linarith only [h1, hq.1], by linarith only [h2, hq.2]⟩, by linarith only [hg.1], by linarith only [hg.2]⟩

theorem rescaleWith_mono (rnd : Rat → Rat) (hrnd : ∀ a b, a ≤ b → rnd a ≤ rnd b)
    (anchor' iw x y : Rat) (hiw : 0 ≤ iw) (hxy : x ≤ y) :
    rescaleWith rnd anchor' iw x ≤ rescaleWith rnd anchor' iw y := by
  unfold rescaleWith
  apply hrnd
  have h1 : rnd (x - anchor') ≤ rnd (y - anchor') := hrnd _ _ (by linarith)
  have h2 : rnd (x - anchor') * iw ≤ rnd (y - anchor') * iw := mul_le_mul_of_nonneg_right h1 hiw
  have h3 := hrnd _ _ h2
  linarith

theorem mantissa_eq (y : Rat) : mantissa y = (y - 1) * 2 ^ 52 := by
  unfold mantissa
  push_cast
  rfl

theorem mantissa_range (y : Rat) (hy : 1 ≤ y ∧ y < 2) : 0 ≤ mantissa y ∧ mantissa y < 2 ^ 52 := by
  rw [mantissa_eq]
  exact ⟨mul_nonneg (sub_nonneg.2 hy.1) (by positivity), by linarith only [hy.2]⟩

theorem mantissa_mono {y y' : Rat} (h : y ≤ y') : mantissa y ≤ mantissa y' := by
  rw [mantissa_eq, mantissa_eq]
  exact mul_le_mul_of_nonneg_right (by linarith) (by positivity)

theorem gridG_in_range_fixed (A W G x r' : Rat) (hW : 0 < W) (hG : W ≤ G) (hlo : A - W ≤ x) (hhi : x ≤ A + 2 * W)
    (he : |r' - rescaleExactG (3 / 2) 4 A W G x| ≤ min (rescaleExactG (3 / 2) 4 A W G x - 1) (1 / 16)) :
    0 ≤ mantissa r' ∧ mantissa r' < 2 ^ 52 := by
  have hr := rescaleG_range_fixed A W G x hW hG hlo hhi
  have hpos : 0 < W / (8 * G) := div_pos hW (mul_pos (by norm_num) (hW.trans_le hG))
  exact mantissa_range r' (rescaleG_margin _ r' ⟨(lt_add_of_pos_right 1 hpos).trans_le hr.1, hr.2⟩ he)

/-- `r'`: the map evaluated with an error of at most `1/16` -/
theorem grid_in_range_fixed (A W x r' : Rat) (hW : 0 < W) (hlo : A - W ≤ x) (hhi : x ≤ A + 2 * W)
    (he : |r' - rescaleExact (3 / 2) 4 A W x| ≤ 1 / 16) :
    0 ≤ mantissa r' ∧ mantissa r' < 2 ^ 52 := by
  -- the case `G = W` of `gridG_in_range_fixed`: there the value is at least `9/8`, so `1/16` is the smaller bound
  have hr := (rescaleG_range_fixed A W W x hW le_rfl hlo hhi).1
  rw [mul_comm, ← div_div, div_self hW.ne'] at hr
  exact gridG_in_range_fixed A W W x r' hW le_rfl hlo hhi (le_min (he.trans (by linarith only [hr])) he)

theorem gridWidth_ge (dim : Nat) (hd : dim = 1 ∨ dim = 2 ∨ dim = 3) (w0 w1 w2 : Rat) :
    w0 ≤ gridWidth true dim w0 w1 w2 0 ∧ w1 ≤ gridWidth true dim w0 w1 w2 1 ∧ w2 ≤ gridWidth true dim w0 w1 w2 2 := by
  rcases hd with rfl | rfl | rfl
  · exact ⟨le_rfl, le_rfl, le_rfl⟩
  · exact ⟨le_max_left _ _, le_max_right _ _, le_rfl⟩
  · exact ⟨(le_max_left _ _).trans (le_max_left _ _), (le_max_right _ _).trans (le_max_left _ _), le_max_right _ _⟩

/-- so the map to the grid is a similarity on the active subspace -/
theorem gridWidth_shared (dim : Nat) (w0 w1 w2 : Rat) (i j : Nat) (hi : i < dim) (hj : j < dim) :
    gridWidth true dim w0 w1 w2 i = gridWidth true dim w0 w1 w2 j := by
  unfold gridWidth
  have h1 : ¬ (i ≥ dim) := by omega
  have h2 : ¬ (j ≥ dim) := by omega
  simp [h1, h2]

/-- unit box, generator on the lower wall: pinned parameters give exactly 2, the repaired ones 15/8. -/
example : rescaleExact 1 3 0 1 (mirrorHigh 0 1 0) = 2 ∧ rescaleExact (3 / 2) 4 0 1 (mirrorHigh 0 1 0) = 15 / 8 := by
  constructor <;> norm_num [rescaleExact, mirrorHigh]

example : mantissa (3 / 2) = 2 ^ 51 := by norm_num [mantissa]

end MVoro.GridProofs

namespace MVoro.SchedProofs

open MVoro.Sched

variable {β : Type}

theorem runOrder_length (f : Nat → β) (order : List Nat) (slots : List (Option β)) :
    (runOrder f order slots).length = slots.length := by
  induction order generalizing slots with
  | nil => rfl
  | cons j rest ih =>
    show (runOrder f rest (slots.set j (some (f j)))).length = slots.length
    rw [ih]; simp

/-- the invariant: slot `i` holds `f i` if task `i` completed, else is unchanged -/
theorem runOrder_getElem? (f : Nat → β) (order : List Nat) (slots : List (Option β)) (i : Nat) :
    (runOrder f order slots)[i]? =
      if i ∈ order then (if i < slots.length then some (some (f i)) else none) else slots[i]? := by
  induction order generalizing slots with
  | nil => simp [runOrder]
  | cons j rest ih =>
    show (runOrder f rest (slots.set j (some (f j))))[i]? = _
    rw [ih, List.getElem?_set, List.length_set]
    by_cases hij : j = i
    · subst hij
      by_cases hm : j ∈ rest <;> simp [hm]
    · have hij' : ¬ i = j := fun h => hij h.symm
      by_cases hm : i ∈ rest <;> simp [hm, hij, hij']

/-- whatever the completion order and the initial slot content, every slot `i` ends up holding `f i`. -/
theorem runOrder_perm (f : Nat → β) (n : Nat) (order : List Nat) (slots : List (Option β))
    (hperm : order.Perm (List.range n)) (hlen : slots.length = n) :
    runOrder f order slots = (List.range n).map (fun i => some (f i)) := by
  apply List.ext_getElem?
  intro i
  rw [runOrder_getElem?]
  have hmem : i ∈ order ↔ i < n := by rw [hperm.mem_iff]; exact List.mem_range
  by_cases hi : i < n <;> simp [hmem, hi, hlen]

/-- any recursive splitting of the index range gives the sequential result. -/
theorem collect_eq (f : Nat → β) (s : Split) (lo len : Nat) :
    collect f s lo len = (List.range len).map (fun i => f (lo + i)) := by
  induction s generalizing lo len with
  | seq => rfl
  | cut k l r ihl ihr =>
    show collect f l lo (min k len) ++ collect f r (lo + min k len) (len - min k len) = _
    rw [ihl, ihr]
    conv_rhs => rw [show len = min k len + (len - min k len) by omega, List.range_add, List.map_append, List.map_map]
    simp only [Function.comp_def, Nat.add_assoc]

theorem flattenCollect_eq (f : Nat → Option (List β)) (s : Split) (n : Nat) :
    flattenCollect f s n = (((List.range n).map f).filterMap id).flatten := by
  unfold flattenCollect
  rw [collect_eq]
  simp

theorem runOrder_any_two (f : Nat → β) (n : Nat) (o₁ o₂ : List Nat) (s₁ s₂ : List (Option β))
    (h₁ : o₁.Perm (List.range n)) (h₂ : o₂.Perm (List.range n))
    (l₁ : s₁.length = n) (l₂ : s₂.length = n) :
    runOrder f o₁ s₁ = runOrder f o₂ s₂ := by
  rw [runOrder_perm f n o₁ s₁ h₁ l₁, runOrder_perm f n o₂ s₂ h₂ l₂]

theorem collect_any_two (f : Nat → β) (s₁ s₂ : Split) (lo len : Nat) :
    collect f s₁ lo len = collect f s₂ lo len := by
  rw [collect_eq, collect_eq]

/-- two orders, different initial garbage, same result -/
example :
    runOrder (fun i => i * i) [3, 1, 0, 2] [none, some 7, none, some 9] =
      [some 0, some 1, some 4, some 9] ∧
    runOrder (fun i => i * i) [0, 1, 2, 3] [none, none, none, none] =
      [some 0, some 1, some 4, some 9] := by
  decide

example :
    collect (fun i => 10 * i) (.cut 2 (.cut 1 .seq .seq) (.cut 7 .seq .seq)) 1 5 = [10, 20, 30, 40, 50] := by
  decide

end MVoro.SchedProofs

namespace MVoro.TypeStateProofs

open MVoro.TypeState

variable {P F : Type}

/-- the run-time invariant tying the face data to the compile-time marker -/
def Good (c : Cell P F) : Prop :=
  (c.marker = .withFaces → c.faces.isSome) ∧ (c.marker = .withoutFaces → c.faces = none)

theorem new_good (dim : Nat) (p : P) : Good (new dim p : Cell P F) := by
  constructor
  · intro h; simp [new] at h
  · intro _; rfl

theorem step_good (derive : P → F) (c c' : Cell P F) (op : Op P F)
    (hg : Good c) (hs : step derive c op = .ok c') : Good c' := by
  obtain ⟨g1, g2⟩ := hg
  -- every arm of `step` that answers `.ok` sets `marker` and `faces` together or leaves both alone
  cases op <;> simp only [step] at hs
  all_goals repeat' split at hs
  all_goals cases hs
  all_goals simp_all [Good]

theorem step_ne_ub (derive : P → F) (c : Cell P F) (op : Op P F) (hg : Good c) :
    step derive c op ≠ .ub := by
  obtain ⟨g1, g2⟩ := hg
  -- `.ub` is answered by `readFaces` alone, in the `withFaces` state with `faces = none`, which `Good` excludes
  cases op <;> simp only [step]
  all_goals repeat' split
  all_goals simp_all

theorem run_good_never_ub (derive : P → F) (c : Cell P F) (ops : List (Op P F)) (hg : Good c) :
    run derive c ops ≠ .ub := by
  induction ops generalizing c with
  | nil => simp [run]
  | cons op ops ih =>
    have hne := step_ne_ub derive c op hg
    simp only [run]
    split
    · next c' hs => exact ih c' (step_good derive c c' op hg hs)
    · next r hr => exact hne

/-- no program of (well-typed or ill-typed) operations from `ConvexCell::new` reads absent face data unchecked. -/
theorem run_never_ub (derive : P → F) (dim : Nat) (p : P) (ops : List (Op P F)) :
    run derive (new dim p) ops ≠ .ub :=
  run_good_never_ub derive _ ops (new_good dim p)

theorem withFaces_rejected_lowdim' (derive : P → F) (c : Cell P F)
    (hm : c.marker = .withoutFaces) (hd : c.dim ≠ 3) :
    step derive c .withFaces = .rejected := by
  simp [step, hm, hd]

theorem withFaces_rejected_lowdim (derive : P → F) (dim : Nat) (p : P) (hd : dim ≠ 3) :
    step derive (new dim p) .withFaces = .rejected :=
  withFaces_rejected_lowdim' derive (new dim p) rfl hd

/-- `discard_faces ∘ with_faces` is the identity on a 3D `WithoutFaces` cell, and
`with_faces ∘ discard_faces ∘ with_faces = with_faces`. -/
theorem discard_withFaces_id (derive : P → F) (c : Cell P F)
    (hm : c.marker = .withoutFaces) (hf : c.faces = none) (hd : c.dim = 3) :
    ∃ c1 : Cell P F,
      c1 = { c with marker := .withFaces, faces := some (derive c.payload) } ∧
      step derive c .withFaces = .ok c1 ∧
      step derive c1 .discardFaces = .ok c ∧
      run derive c [.withFaces, .discardFaces, .withFaces] = .ok c1 ∧
      run derive c [.withFaces, .readFaces, .discardFaces] = .ok c := by
  obtain ⟨m, d, p, fc⟩ := c
  simp only at hm hf hd
  subst hm hf hd
  refine ⟨_, rfl, ?_, ?_, ?_, ?_⟩ <;> simp [step, run]

/-- a 3D cell goes through the whole life cycle; a 2D cell is rejected; an ill-typed read is a type error. -/
example :
    (match run (P := Nat) (F := Nat) (· + 1) (new 3 5) [.mutate (· * 2), .withFaces, .readFaces] with
      | .ok c => c.faces = some 11 ∧ c.marker = .withFaces
      | _ => False) ∧
    (match run (P := Nat) (F := Nat) (· + 1) (new 2 5) [.withFaces, .readFaces] with
      | .rejected => True
      | _ => False) ∧
    (match run (P := Nat) (F := Nat) (· + 1) (new 3 5) [.readFaces] with
      | .typeError => True
      | _ => False) := by
  simp [run, step, new]

end MVoro.TypeStateProofs

#print axioms MVoro.GridProofs.rescale_hits_two_pinned
#print axioms MVoro.GridProofs.rescale_range_pinned
#print axioms MVoro.GridProofs.queried_positions
#print axioms MVoro.GridProofs.tripled_contains_images
#print axioms MVoro.GridProofs.rescaleWith_mono
#print axioms MVoro.GridProofs.mantissa_range
#print axioms MVoro.GridProofs.mantissa_mono
#print axioms MVoro.GridProofs.grid_in_range_fixed
#print axioms MVoro.SchedProofs.runOrder_perm
#print axioms MVoro.SchedProofs.collect_eq
#print axioms MVoro.SchedProofs.flattenCollect_eq
#print axioms MVoro.SchedProofs.runOrder_any_two
#print axioms MVoro.SchedProofs.collect_any_two
#print axioms MVoro.TypeStateProofs.new_good
#print axioms MVoro.TypeStateProofs.step_good
#print axioms MVoro.TypeStateProofs.run_never_ub
#print axioms MVoro.TypeStateProofs.withFaces_rejected_lowdim
#print axioms MVoro.TypeStateProofs.withFaces_rejected_lowdim'
#print axioms MVoro.TypeStateProofs.discard_withFaces_id
