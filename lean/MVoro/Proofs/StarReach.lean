/-
Every cell the algorithm can reach by exact clips is a closed surface of good vertices.

`Good` = closed surface, no repeated triple, indices among the planes in use, every vertex `VOK`; closedness, orientation and
feasibility are also tested at run time (checks C18, C05, C01).  `Step` = one `clip_by_plane` with exact decisions whose boundary
reconstruction succeeded without a step that closes the surface (`CycleBoundary.Greedy`; that the code did not hit "No suitable
vertex found to extend boundary!" is `GreedyRaw`, and `greedy_of_raw` leads from there under `NoClosedPart`) and whose new vertices
were placed on their planes.

Not here: that the greedy reconstruction always succeeds on the removed region of an exact clip (DESIGN §4 item 3), and that a
good cell IS the polytope (item 2).
-/
import MVoro.Proofs.StarInvariant
import Mathlib.Logic.Relation
import Mathlib.Tactic.NormNum

namespace MVoro.Star
open MVoro Ref MVoro.C10 MVoro.CycleBoundary

variable {α : Type} [Field α] [LinearOrder α] [IsStrictOrderedRing α]

structure St (α : Type) where
  planes : List Nat
  T : List Dual
  loc : Dual → I3 α

def Good (g : I3 α) (nbr : Nat → I3 α) (s : St α) : Prop :=
  Closed s.T ∧ s.T.Nodup ∧ (∀ t ∈ s.T, t.a ∈ s.planes ∧ t.b ∈ s.planes ∧ t.c ∈ s.planes) ∧
  ∀ t ∈ s.T, VOK g nbr s.planes t (s.loc t)

/-- `R`: the removed vertices in the order the greedy reconstruction consumed them -/
inductive Step (g : I3 α) (nbr : Nat → I3 α) : St α → St α → Prop
  | clip (s : St α) (p : Nat) (R : List Dual) (succ : Nat → Nat) (loc' : Dual → I3 α)
      (hfresh : p ∉ s.planes)
      (hR : ∀ t, t ∈ R ↔ t ∈ s.T ∧ gap g (nbr p) (s.loc t) < 0)
      (hRn : R.Nodup)
      (hG : Greedy R succ)
      (hkeep : ∀ t ∈ s.T, loc' t = s.loc t)
      (hnew : ∀ e ∈ bdry R, gap g (nbr e.1) (loc' ⟨e.1, e.2, p⟩) = 0 ∧ gap g (nbr e.2) (loc' ⟨e.1, e.2, p⟩) = 0 ∧
        gap g (nbr p) (loc' ⟨e.1, e.2, p⟩) = 0) :
      Step g nbr s ⟨p :: s.planes, clipDuals s.T R p, loc'⟩

theorem clipDuals_idx {planes : List Nat} {T R : List Dual} {p : Nat} (hR : R ⊆ T)
    (hidx : ∀ t ∈ T, t.a ∈ planes ∧ t.b ∈ planes ∧ t.c ∈ planes) :
    ∀ t ∈ clipDuals T R p, t.a ∈ p :: planes ∧ t.b ∈ p :: planes ∧ t.c ∈ p :: planes := by
  intro t ht
  rcases mem_clip_iff.1 ht with ⟨htT, _⟩ | ⟨e, he, rfl⟩
  · obtain ⟨ia, ib, ic⟩ := hidx t htT
    exact ⟨.tail _ ia, .tail _ ib, .tail _ ic⟩
  · obtain ⟨d, hdR, hde⟩ := mem_edgesOf.mp (mem_bdry.mp he).1
    obtain ⟨ia, ib, ic⟩ := hidx d (hR hdR)
    rcases mem_edges.1 hde with rfl | rfl | rfl
    · exact ⟨.tail _ ia, .tail _ ib, .head _⟩
    · exact ⟨.tail _ ib, .tail _ ic, .head _⟩
    · exact ⟨.tail _ ic, .tail _ ia, .head _⟩

theorem step_good (g : I3 α) (nbr : Nat → I3 α) (s s' : St α) (hs : Good g nbr s) (h : Step g nbr s s') : Good g nbr s' := by
  obtain ⟨hclosed, hnd, hidx, hok⟩ := hs
  cases h with
  | clip p R succ loc' hfresh hR hRn hG hkeep hnew =>
    have hsub : R ⊆ s.T := fun t ht => ((hR t).1 ht).1
    have hp : ∀ d ∈ s.T, d.a ≠ p ∧ d.b ≠ p ∧ d.c ≠ p := by
      intro d hd
      obtain ⟨ia, ib, ic⟩ := hidx d hd
      exact ⟨fun e => hfresh (e ▸ ia), fun e => hfresh (e ▸ ib), fun e => hfresh (e ▸ ic)⟩
    obtain ⟨hkept, hcreated⟩ := clip_invariant_of_mem hclosed hidx hok hR
    refine ⟨greedy_closed hclosed hsub hRn hp hG,
      nodup_clipDuals hnd (nodup_edgesOf_of_subset hclosed.1 hRn hsub) (fun d hd => (hp d hd).2.2),
      clipDuals_idx hsub hidx, fun t ht => ?_⟩
    rcases mem_clip_iff.1 ht with ⟨htT, hnotR⟩ | ⟨e, he, rfl⟩
    · show VOK g nbr (p :: s.planes) t (loc' t)
      rw [hkeep t htT]
      exact hkept t htT hnotR
    · obtain ⟨h1, h2, h3⟩ := hnew e he
      exact hcreated e he (loc' ⟨e.1, e.2, p⟩) h1 h2 h3

theorem reach_good (g : I3 α) (nbr : Nat → I3 α) (s s' : St α) (hs : Good g nbr s)
    (h : Relation.ReflTransGen (Step g nbr) s s') : Good g nbr s' := by
  induction h with
  | refl => exact hs
  | tail _ hstep ih => exact step_good g nbr _ _ ih hstep

/-- on a good vertex the sign test of `clip_by_plane`'s exact path is the decision `Step` is defined with: removed iff strictly
closer to `q` than to the generator -/
theorem exact_decision_iff (g : I3 α) (nbr : Nat → I3 α) (planes : List Nat) (t : Dual) (o q : I3 α)
    (h : VOK g nbr planes t o) :
    inSphereDet g (nbr t.a) (nbr t.b) (nbr t.c) q < 0 ↔ gap g q o < 0 := by
  obtain ⟨h1, h2, h3, h4, _⟩ := h
  rw [inSphere_eq_gap g _ _ _ q o h1 h2 h3]
  exact smul_neg_iff_of_pos_left h4

/-- the mirror image of the generator `g` through wall `i` of the box `[lo, hi]` (walls in the order of
`SimulationBoundary::cuboid`).  In the code this point is what `HalfSpace::right_loc` returns for a wall (`Obl.wall_halfspace`
shows that to be the mirror image, for planes over ℝ); no theorem connects the two descriptions. -/
def mirrorNbr (lo hi g : I3 α) : Nat → I3 α
  | 0 => ⟨2 * lo.c0 - g.c0, g.c1, g.c2⟩
  | 1 => ⟨2 * hi.c0 - g.c0, g.c1, g.c2⟩
  | 2 => ⟨g.c0, 2 * lo.c1 - g.c1, g.c2⟩
  | 3 => ⟨g.c0, 2 * hi.c1 - g.c1, g.c2⟩
  | 4 => ⟨g.c0, g.c1, 2 * lo.c2 - g.c2⟩
  | _ => ⟨g.c0, g.c1, 2 * hi.c2 - g.c2⟩

/-- the eight dual triples of `ConvexCell::init` (facts table, `Obl/CellInit`) -/
def initT : List Dual := [⟨2, 5, 0⟩, ⟨5, 3, 0⟩, ⟨1, 5, 2⟩, ⟨5, 1, 3⟩, ⟨4, 2, 0⟩, ⟨4, 0, 3⟩, ⟨2, 4, 1⟩, ⟨4, 3, 1⟩]

def hasWall (t : Dual) (i : Nat) : Bool := t.a == i || t.b == i || t.c == i

def corner (lo hi : I3 α) (t : Dual) : I3 α :=
  ⟨if hasWall t 0 then lo.c0 else hi.c0, if hasWall t 2 then lo.c1 else hi.c1, if hasWall t 4 then lo.c2 else hi.c2⟩

def initSt (lo hi : I3 α) : St α := ⟨[0, 1, 2, 3, 4, 5], initT, corner lo hi⟩

def depth (lo hi x : I3 α) : Nat → α
  | 0 => x.c0 - lo.c0
  | 1 => hi.c0 - x.c0
  | 2 => x.c1 - lo.c1
  | 3 => hi.c1 - x.c1
  | 4 => x.c2 - lo.c2
  | _ => hi.c2 - x.c2

section
omit [LinearOrder α] [IsStrictOrderedRing α]

theorem gap_mirror (lo hi g x : I3 α) (i : Nat) :
    gap g (mirrorNbr lo hi g i) x = 4 * depth lo hi g i * depth lo hi x i := by
  match i with
  | 0 | 1 | 2 | 3 | 4 | _ + 5 => simp only [mirrorNbr, depth, gap, dist2]; ring

theorem depth_corner_initT (lo hi : I3 α) (t : Dual) (ht : t ∈ initT) :
    depth lo hi (corner lo hi t) t.a = 0 ∧ depth lo hi (corner lo hi t) t.b = 0 ∧ depth lo hi (corner lo hi t) t.c = 0 := by
  simp only [initT, List.mem_cons, List.mem_nil_iff, or_false] at ht
  rcases ht with rfl | rfl | rfl | rfl | rfl | rfl | rfl | rfl <;> exact ⟨sub_self _, sub_self _, sub_self _⟩

theorem orient_initT (lo hi g : I3 α) (t : Dual) (ht : t ∈ initT) :
    orient g (mirrorNbr lo hi g t.a) (mirrorNbr lo hi g t.b) (mirrorNbr lo hi g t.c) =
      8 * depth lo hi g t.a * depth lo hi g t.b * depth lo hi g t.c := by
  simp only [initT, List.mem_cons, List.mem_nil_iff, or_false] at ht
  rcases ht with rfl | rfl | rfl | rfl | rfl | rfl | rfl | rfl <;>
    (simp only [orient, bigInt, det3, det2, mirrorNbr, depth]; ring)

end

theorem depth_pos (lo hi g : I3 α) (h0 : lo.c0 < g.c0 ∧ g.c0 < hi.c0) (h1 : lo.c1 < g.c1 ∧ g.c1 < hi.c1)
    (h2 : lo.c2 < g.c2 ∧ g.c2 < hi.c2) (i : Nat) : 0 < depth lo hi g i :=
  match i with
  | 0 => sub_pos.mpr h0.1 | 1 => sub_pos.mpr h0.2 | 2 => sub_pos.mpr h1.1 | 3 => sub_pos.mpr h1.2 | 4 => sub_pos.mpr h2.1
  | _ + 5 => sub_pos.mpr h2.2

theorem depth_corner_nonneg (lo hi : I3 α) (h0 : lo.c0 ≤ hi.c0) (h1 : lo.c1 ≤ hi.c1) (h2 : lo.c2 ≤ hi.c2) (t : Dual) (i : Nat) :
    0 ≤ depth lo hi (corner lo hi t) i := by
  match i with
  | 0 | 1 | 2 | 3 | 4 | _ + 5 => simp only [depth, corner]; split <;> simp [*]

theorem initT_idx : ∀ t ∈ initT, t.a ∈ [0, 1, 2, 3, 4, 5] ∧ t.b ∈ [0, 1, 2, 3, 4, 5] ∧ t.c ∈ [0, 1, 2, 3, 4, 5] := by decide

/-- `VOK` reads `nbr` at the six wall indices only -/
theorem init_vok (lo hi g : I3 α) (h0 : lo.c0 < g.c0 ∧ g.c0 < hi.c0) (h1 : lo.c1 < g.c1 ∧ g.c1 < hi.c1)
    (h2 : lo.c2 < g.c2 ∧ g.c2 < hi.c2) (nbr : Nat → I3 α) (hn : ∀ i, i < 6 → nbr i = mirrorNbr lo hi g i) (t : Dual)
    (ht : t ∈ initT) : VOK g nbr [0, 1, 2, 3, 4, 5] t (corner lo hi t) := by
  have lt6 : ∀ i ∈ [0, 1, 2, 3, 4, 5], i < 6 := by decide
  have dg := depth_pos lo hi g h0 h1 h2
  obtain ⟨ia, ib, ic⟩ := initT_idx t ht
  obtain ⟨wa, wb, wc⟩ := depth_corner_initT lo hi t ht
  rw [VOK, hn _ (lt6 _ ia), hn _ (lt6 _ ib), hn _ (lt6 _ ic)]
  refine ⟨by rw [gap_mirror, wa, mul_zero], by rw [gap_mirror, wb, mul_zero], by rw [gap_mirror, wc, mul_zero], ?_, fun i hm => ?_⟩
  · rw [orient_initT lo hi g t ht]
    exact mul_pos (mul_pos (mul_pos (by norm_num) (dg _)) (dg _)) (dg _)
  · rw [hn i (lt6 i hm), gap_mirror]
    exact mul_nonneg (mul_nonneg (by norm_num) (dg i).le)
      (depth_corner_nonneg lo hi (h0.1.trans h0.2).le (h1.1.trans h1.2).le (h2.1.trans h2.2).le t i)

/-- T01.4d -/
theorem init_good (lo hi g : I3 α) (h0 : lo.c0 < g.c0 ∧ g.c0 < hi.c0) (h1 : lo.c1 < g.c1 ∧ g.c1 < hi.c1)
    (h2 : lo.c2 < g.c2 ∧ g.c2 < hi.c2) : Good g (mirrorNbr lo hi g) (initSt lo hi) := by
  -- stated for `initT`: `decide` wants the proposition free of `lo hi`
  have c3 : initT.Nodup := by decide
  exact ⟨closed_cube, c3, initT_idx, init_vok lo hi g h0 h1 h2 _ fun _ _ => rfl⟩

/-- non-vacuity: the start cell of the box `[0,4]³` with generator `(1,2,1)` -/
example : Closed T0 := (init_good ⟨0, 0, 0⟩ ⟨4, 4, 4⟩ g0 (by decide) (by decide) (by decide)).1

/-- the hypotheses of `clip_invariant` hold for that start cell -/
example : ∀ t ∈ T0, VOK g0 nbr0 [0, 1, 2, 3, 4, 5] t (loc0 t) := by
  have hn : nbr0 = mirrorNbr ⟨0, 0, 0⟩ ⟨4, 4, 4⟩ g0 := by
    funext i
    match i with
    | 0 | 1 | 2 | 3 | 4 | _ + 5 => simp only [nbr0, mirrorNbr, g0]; norm_num
  exact init_vok ⟨0, 0, 0⟩ ⟨4, 4, 4⟩ g0 (by decide) (by decide) (by decide) _ fun i _ => congrFun hn i

/-- T01.4e, and T10.5 over a whole construction -/
theorem reachable_from_init_good (lo hi g : I3 α) (h0 : lo.c0 < g.c0 ∧ g.c0 < hi.c0) (h1 : lo.c1 < g.c1 ∧ g.c1 < hi.c1)
    (h2 : lo.c2 < g.c2 ∧ g.c2 < hi.c2) (nbr : Nat → I3 α) (hn : ∀ i, i < 6 → nbr i = mirrorNbr lo hi g i) (s : St α)
    (h : Relation.ReflTransGen (Step g nbr) (initSt lo hi) s) : Good g nbr s := by
  obtain ⟨g1, g2, g3, -⟩ := init_good lo hi g h0 h1 h2
  exact reach_good g nbr _ _ ⟨g1, g2, g3, init_vok lo hi g h0 h1 h2 nbr hn⟩ h

#print axioms MVoro.Star.reachable_from_init_good
end MVoro.Star
