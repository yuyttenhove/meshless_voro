/-
Bounding spheres (src/bounding_sphere.rs, src/geometry.rs): the convex-combination minimality certificate, `from_two_points` is
minimal, `Sphere::extend` keeps everything contained (EPOS-6 final loop), the sphere-of-spheres extension step.
-/
import MVoro.Proofs.GeomHelpers
import MVoro.Proofs.MEBProofs
import Mathlib.Tactic.Linarith
import Mathlib.Tactic.Ring
import Mathlib.Tactic.NormNum
import Mathlib.Tactic.Positivity
import Mathlib.Analysis.InnerProductSpace.Basic

namespace MVoro.SphereProofs

open MVoro MVoro.GeomHelpers Finset

variable {E : Type*} [NormedAddCommGroup E] [InnerProductSpace ℝ E]

/-- the certificate, quantitative form: expand `‖(p i - c) + (c - c')‖²` and take the weighted mean -/
theorem certificate_sq {ι : Type*} (s : Finset ι) (p : ι → E) (lam : ι → ℝ) (c : E) (r : ℝ)
    (hlam : ∀ i ∈ s, 0 ≤ lam i) (hsum : ∑ i ∈ s, lam i = 1) (hc : ∑ i ∈ s, lam i • p i = c)
    (hr : ∀ i ∈ s, ‖p i - c‖ = r) (c' : E) (r' : ℝ) (hcont : ∀ i ∈ s, ‖p i - c'‖ ≤ r') :
    r ^ 2 + ‖c - c'‖ ^ 2 ≤ r' ^ 2 := by
  -- the cross terms cancel: `c` is the weighted mean of the `p i`
  have hzero : ∑ i ∈ s, lam i * inner ℝ (p i - c) (c - c') = 0 := by
    simp only [← real_inner_smul_left, ← sum_inner, smul_sub, sum_sub_distrib, ← sum_smul, hsum, one_smul, hc, sub_self,
      inner_zero_left]
  have hle : ∑ i ∈ s, lam i * (r ^ 2 + 2 * inner ℝ (p i - c) (c - c') + ‖c - c'‖ ^ 2) ≤ ∑ i ∈ s, lam i * r' ^ 2 :=
    sum_le_sum fun i hi => mul_le_mul_of_nonneg_left (by
      rw [← hr i hi, ← norm_add_sq_real, sub_add_sub_cancel]
      exact pow_le_pow_left₀ (norm_nonneg _) (hcont i hi) 2) (hlam i hi)
  simpa only [mul_add, mul_left_comm _ (2 : ℝ), sum_add_distrib, ← sum_mul, ← mul_sum, hsum, hzero, one_mul, mul_zero,
    add_zero] using hle

theorem center_unique_of_certificate {ι : Type*} (s : Finset ι) (p : ι → E) (lam : ι → ℝ) (c : E) (r : ℝ)
    (hlam : ∀ i ∈ s, 0 ≤ lam i) (hsum : ∑ i ∈ s, lam i = 1) (hc : ∑ i ∈ s, lam i • p i = c)
    (hr : ∀ i ∈ s, ‖p i - c‖ = r) (c' : E) (hcont : ∀ i ∈ s, ‖p i - c'‖ ≤ r) : c' = c := by
  have hsq := certificate_sq s p lam c r hlam hsum hc hr c' r hcont
  have h1 : ‖c - c'‖ = 0 := (pow_eq_zero_iff two_ne_zero).mp (le_antisymm (by linarith) (sq_nonneg _))
  exact (sub_eq_zero.mp (norm_eq_zero.mp h1)).symm

/-- `certificate_sq` in the coordinates of the model (`V3 ℝ` carries no inner-product structure): `c = Σ λ_i p_i` is given
componentwise.  The argument is `MEBProofs.certificate_list`, which the exact checker over `ℚ` shares. -/
theorem certificate_sq_V3 {ι : Type*} (s : Finset ι) (p : ι → V3 ℝ) (lam : ι → ℝ) (c : V3 ℝ) (r : ℝ)
    (hlam : ∀ i ∈ s, 0 ≤ lam i) (hsum : ∑ i ∈ s, lam i = 1)
    (hcx : ∑ i ∈ s, lam i * (p i).x = c.x) (hcy : ∑ i ∈ s, lam i * (p i).y = c.y)
    (hcz : ∑ i ∈ s, lam i * (p i).z = c.z)
    (hr : ∀ i ∈ s, V3.distance2 (p i) c = r ^ 2) (c' : V3 ℝ) (r' : ℝ)
    (hcont : ∀ i ∈ s, V3.distance2 (p i) c' ≤ r' ^ 2) :
    r ^ 2 + V3.distance2 c c' ≤ r' ^ 2 :=
  MEBProofs.certificate_list s.toList lam p c (r ^ 2) (fun i hi => hlam i (Finset.mem_toList.1 hi))
    ((Finset.sum_map_toList s _).trans hsum) ((Finset.sum_map_toList s _).trans hcx) ((Finset.sum_map_toList s _).trans hcy)
    ((Finset.sum_map_toList s _).trans hcz) (fun i hi => hr i (Finset.mem_toList.1 hi)) c' (r' ^ 2)
    fun i hi => hcont i (Finset.mem_toList.1 hi)

theorem minimal_of_certificate_V3 {ι : Type*} (s : Finset ι) (p : ι → V3 ℝ) (lam : ι → ℝ) (c : V3 ℝ) (r : ℝ)
    (hr0 : 0 ≤ r) (hlam : ∀ i ∈ s, 0 ≤ lam i) (hsum : ∑ i ∈ s, lam i = 1)
    (hcx : ∑ i ∈ s, lam i * (p i).x = c.x) (hcy : ∑ i ∈ s, lam i * (p i).y = c.y)
    (hcz : ∑ i ∈ s, lam i * (p i).z = c.z)
    (hr : ∀ i ∈ s, V3.distance2 (p i) c = r ^ 2) (c' : V3 ℝ) (r' : ℝ) (hr' : 0 ≤ r')
    (hcont : ∀ i ∈ s, V3.distance (p i) c' ≤ r') : r ≤ r' := by
  have hsq := certificate_sq_V3 s p lam c r hlam hsum hcx hcy hcz hr c' r'
    fun i hi => (Real.sqrt_le_left hr').mp (hcont i hi)
  exact le_trans (le_abs_self r) (abs_le_of_sq_le_sq (by linarith [distance2_nonneg c c']) hr')

/-- the unit sphere at the origin with support `(±1,0,0)` and weights `(½,½)` -/
example (c' : V3 ℝ) (r' : ℝ) (hr' : 0 ≤ r') (h1 : V3.distance ⟨1, 0, 0⟩ c' ≤ r')
    (h2 : V3.distance ⟨-1, 0, 0⟩ c' ≤ r') : 1 ≤ r' := by
  refine minimal_of_certificate_V3 (Finset.univ : Finset Bool) (fun t => cond t ⟨1, 0, 0⟩ ⟨-1, 0, 0⟩)
    (fun _ => 1 / 2) ⟨0, 0, 0⟩ 1 (by norm_num) (fun _ _ => by norm_num) ?_ ?_ ?_ ?_ ?_ c' r' hr' ?_
  · rw [Fintype.sum_bool]; norm_num
  · rw [Fintype.sum_bool]; norm_num
  · rw [Fintype.sum_bool]; norm_num
  · rw [Fintype.sum_bool]; norm_num
  · intro t _; cases t <;> · rw [distance2_def]; norm_num
  · intro t _; cases t
    · exact h2
    · exact h1

theorem sphere2_minimal_E (a b c' : E) (r' : ℝ) (ha : ‖a - c'‖ ≤ r') (hb : ‖b - c'‖ ≤ r') :
    ‖a - b‖ / 2 ≤ r' := by
  linarith [norm_sub_le_norm_sub_add_norm_sub a c' b, norm_sub_rev c' b]

example (c' r' : ℝ) (h0 : ‖(0 : ℝ) - c'‖ ≤ r') (h2 : ‖(2 : ℝ) - c'‖ ≤ r') : 1 ≤ r' := by
  have := sphere2_minimal_E (0 : ℝ) 2 c' r' h0 h2
  norm_num [Real.norm_eq_abs] at this
  linarith

/-- `Sphere::from_two_points` is minimal -/
theorem sphere2_minimal (a b c' : V3 ℝ) (R : ℝ) (ha : V3.distance a c' ≤ R) (hb : V3.distance b c' ≤ R) :
    (Ref.sphere2 a b).radius ≤ R := by
  have ht := distance_triangle a c' b
  rw [distance_comm c' b] at ht
  rw [sphere2_radius, ← distance_def]
  linarith

theorem extend_radius_mono (s : Sphere ℝ) (x : V3 ℝ) (hr : 0 < s.radius) :
    s.radius ≤ (Ref.extend s x).radius := by
  cases h' : Ref.contains s x
  · rw [extend_radius_eq s x hr h']
    have := lt_distance_of_not_contains s x hr h'
    linarith
  · rw [extend_of_contains s x h']

theorem extend_radius_pos (s : Sphere ℝ) (x : V3 ℝ) (hr : 0 < s.radius) : 0 < (Ref.extend s x).radius :=
  hr.trans_le (extend_radius_mono s x hr)

/-- whatever `Sphere::contains` accepted before `Sphere::extend` (with the `1 + 1e-10` slack) it accepts afterwards. -/
theorem extend_keeps_contained (s : Sphere ℝ) (x y : V3 ℝ) (hy : Ref.contains s y = true) :
    Ref.contains (Ref.extend s x) y = true := by
  have hr : 0 < s.radius := ((contains_iff s y).mp hy).1
  cases h' : Ref.contains s x
  case true => rw [extend_of_contains s x h']; exact hy
  case false =>
    rw [contains_iff_distance] at hy ⊢
    refine ⟨extend_radius_pos s x hr, ?_⟩
    -- triangle inequality through the old centre, which moves by `(d - r)/2`; the slack `σ ≥ 1` only helps
    have ht := distance_triangle y s.center (Ref.extend s x).center
    rw [distance_comm s.center, (extend_distances s x hr h').2] at ht
    have hlt := lt_distance_of_not_contains s x hr h'
    refine ht.trans ((add_le_add hy.2 (le_mul_of_one_le_right (div_nonneg (sub_nonneg.mpr hlt.le) zero_le_two)
      one_le_slack)).trans_eq ?_)
    rw [extend_radius_eq s x hr h']
    ring

theorem extend_contains_new (s : Sphere ℝ) (x : V3 ℝ) (hr : 0 < s.radius) :
    Ref.contains (Ref.extend s x) x = true := by
  cases h' : Ref.contains s x
  case true => rw [extend_of_contains s x h', h']
  case false =>
    have hp := extend_radius_pos s x hr
    rw [contains_iff_distance, (extend_contains_point s x hr h').1]
    exact ⟨hp, le_mul_of_one_le_right hp.le one_le_slack⟩

theorem fold_extend_contains_all (ps : List (V3 ℝ)) : ∀ (s : Sphere ℝ), 0 < s.radius →
    0 < (ps.foldl Ref.extend s).radius ∧
    (∀ y, Ref.contains s y = true → Ref.contains (ps.foldl Ref.extend s) y = true) ∧
    (∀ x ∈ ps, Ref.contains (ps.foldl Ref.extend s) x = true) := by
  induction ps with
  | nil => intro s hr; exact ⟨hr, fun y hy => hy, fun x hx => by simp at hx⟩
  | cons a ps ih =>
    intro s hr
    obtain ⟨h1, h2, h3⟩ := ih (Ref.extend s a) (extend_radius_pos s a hr)
    rw [List.foldl_cons]
    refine ⟨h1, fun y hy => h2 y (extend_keeps_contained s a y hy), ?_⟩
    intro x hx
    rcases List.mem_cons.mp hx with rfl | hx
    · exact h2 x (extend_contains_new s x hr)
    · exact h3 x hx

/-- EPOS-6: whatever the initial guess of positive radius, the result of the extension loop over `ps` contains all of `ps`. -/
theorem epos6_contains_all (ps : List (V3 ℝ)) (s0 : Sphere ℝ) (hr : 0 < s0.radius) :
    ∀ x ∈ ps, Ref.contains (ps.foldl Ref.extend s0) x = true :=
  (fold_extend_contains_all ps s0 hr).2.2

example : let s := [(⟨3, 0, 0⟩ : V3 ℝ), ⟨0, 5, 0⟩].foldl Ref.extend ⟨⟨0, 0, 0⟩, 1⟩
    Ref.contains s ⟨3, 0, 0⟩ = true ∧ Ref.contains s ⟨0, 5, 0⟩ = true ∧ Ref.contains s ⟨1, 0, 0⟩ = true := by
  intro s
  obtain ⟨-, h2, h3⟩ := fold_extend_contains_all [(⟨3, 0, 0⟩ : V3 ℝ), ⟨0, 5, 0⟩] ⟨⟨0, 0, 0⟩, 1⟩ (by norm_num)
  refine ⟨h3 _ (by simp), h3 _ (by simp), h2 _ ?_⟩
  rw [contains_iff, distance2_def]; norm_num

/-- `Epos6::bounding_sphere_of_spheres`' update `R' = R + δ`, `c' = c - δ (c - c_s)/dist` with
`δ = (dist - R + r_s)/2 > 0` contains the old ball and the new sphere, provided the new sphere does not swallow the old
ball (`r_s ≤ R + dist`, equivalently `δ ≤ dist`).  Both inclusions are tight. -/
theorem sphere_of_spheres_step (c cs : E) (R rs : ℝ) (hd : 0 < ‖cs - c‖)
    (hδ : 0 < (‖cs - c‖ - R + rs) / 2) (hbig : rs ≤ R + ‖cs - c‖) :
    let dist := ‖cs - c‖
    let δ := (dist - R + rs) / 2
    let c' := c - (δ / dist) • (c - cs)
    ‖c' - c‖ + R ≤ R + δ ∧ ‖c' - cs‖ + rs ≤ R + δ := by
  dsimp only
  have hle : (‖cs - c‖ - R + rs) / 2 / ‖cs - c‖ ≤ 1 := (div_le_one hd).mpr (by linarith only [hbig])
  -- `c' - c = -t (c - cs)` and `c' - cs = (1 - t) (c - cs)` with `t = δ/dist ∈ [0, 1]`
  have h (t : ℝ) : c - cs - t • (c - cs) = (1 - t) • (c - cs) := by rw [sub_smul, one_smul]
  rw [sub_sub_cancel_left, norm_neg, sub_right_comm, h, norm_smul, norm_smul, norm_sub_rev c cs,
    Real.norm_of_nonneg (div_pos hδ hd).le, Real.norm_of_nonneg (sub_nonneg.mpr hle), sub_mul, one_mul,
    div_mul_cancel₀ _ hd.ne']
  exact ⟨(add_comm _ _).le, le_of_eq (by ring)⟩

/-- the step is false without `r_s ≤ R + dist`: on the real line the unit ball at `0` extended by the ball of radius `10` at
`1` gives centre `5`, radius `6`, which does not contain the point `-9` of the new ball. -/
example : ¬ (‖((0 : ℝ) - (((‖(1 : ℝ) - 0‖ - 1 + 10) / 2) / ‖(1 : ℝ) - 0‖) • ((0 : ℝ) - 1)) - 1‖ + 10
    ≤ 1 + (‖(1 : ℝ) - 0‖ - 1 + 10) / 2) := by
  norm_num [Real.norm_eq_abs]

end MVoro.SphereProofs

#print axioms MVoro.SphereProofs.certificate_sq
#print axioms MVoro.SphereProofs.center_unique_of_certificate
#print axioms MVoro.SphereProofs.sphere2_minimal_E
#print axioms MVoro.SphereProofs.sphere_of_spheres_step
#print axioms MVoro.SphereProofs.sphere2_minimal
#print axioms MVoro.SphereProofs.certificate_sq_V3
#print axioms MVoro.SphereProofs.minimal_of_certificate_V3
#print axioms MVoro.SphereProofs.extend_radius_pos
#print axioms MVoro.SphereProofs.extend_radius_mono
#print axioms MVoro.SphereProofs.extend_keeps_contained
#print axioms MVoro.SphereProofs.extend_contains_new
#print axioms MVoro.SphereProofs.fold_extend_contains_all
#print axioms MVoro.SphereProofs.epos6_contains_all
