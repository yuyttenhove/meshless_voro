/-
Correctness of the best-first nearest-neighbour enumeration `MVoro.Cand.bestFirst` (model of
`RTreeWrappingNearestNeighbourIter`, src/rtree_nn.rs), for any key with the lower-bound property `LB` and any choice
function `Valid` for it.  `boxKey` models the key of the code (`wrapping_envelope_distance_2`; its translation `Ref.wrapEnvDist2` has a
lower-bound theorem of its own in `Obl/NN`, and no theorem connects the two); the choice function of the driver is `argminFirst`.
-/
import MVoro.Model.Cand
import Mathlib.Tactic.Linarith
import Mathlib.Data.Real.Basic
import Mathlib.Data.List.Perm.Basic

namespace MVoro.BestFirst
open MVoro.Cand

variable {τ : Type}

/-- a parent's key is a lower bound of the keys of its children (searched under the same shift) -/
def LB (key : Entry τ → Rat) : Prop :=
  ∀ (cs : List Tree) (s : τ) (c : Tree), c ∈ cs → key ⟨.node cs, s⟩ ≤ key ⟨c, s⟩

/-- an entry with minimal key of every non-empty queue, with arbitrary tie-breaking -/
def Valid (key : Entry τ → Rat) (choose : List (Entry τ) → Nat) : Prop :=
  ∀ q : List (Entry τ), q ≠ [] →
    ∃ h : choose q < q.length, ∀ e ∈ q, key (q[choose q]'h) ≤ key e

/-- the (leaf, shift) pairs below the entries of a queue -/
def leavesOf (q : List (Entry τ)) : List (Nat × τ) :=
  q.flatMap (fun e => e.t.leaves.map (fun i => (i, e.tag)))

def pairKey (key : Entry τ → Rat) (p : Nat × τ) : Rat := key ⟨.leaf p.1, p.2⟩

theorem removeAt_eq_eraseIdx {α} : ∀ (l : List α) (i : Nat), removeAt l i = l.eraseIdx i
  | [], _ => rfl
  | _ :: _, 0 => rfl
  | x :: xs, i + 1 => congrArg (x :: ·) (removeAt_eq_eraseIdx xs i)

theorem pop_perm {α} {q : List α} {i : Nat} {e : α} (h : q[i]? = some e) : (e :: removeAt q i).Perm q := by
  obtain ⟨hi, rfl⟩ := List.getElem?_eq_some_iff.1 h
  rw [removeAt_eq_eraseIdx]
  exact List.getElem_cons_eraseIdx_perm hi

theorem Tree.size_pos : ∀ t : Tree, 0 < t.size
  | .leaf _ => by simp [Tree.size]
  | .node _ => by
    unfold Tree.size
    omega

theorem totalFuel_nil : totalFuel ([] : List (Entry τ)) = 0 := rfl

theorem totalFuel_cons (e : Entry τ) (q) : totalFuel (e :: q) = e.t.size + totalFuel q := by
  simp [totalFuel]

theorem totalFuel_append (q r : List (Entry τ)) : totalFuel (q ++ r) = totalFuel q + totalFuel r := by
  simp [totalFuel]

theorem totalFuel_perm {q r : List (Entry τ)} (h : q.Perm r) : totalFuel q = totalFuel r :=
  (h.map _).sum_nat

theorem totalFuel_children (cs : List Tree) (s : τ) :
    totalFuel (cs.map (fun c => (⟨c, s⟩ : Entry τ))) = sizeList cs := by
  induction cs with
  | nil => rfl
  | cons c cs ih => simp [totalFuel_cons, sizeList, ih]

theorem eq_nil_of_totalFuel_eq_zero {q : List (Entry τ)} (h : totalFuel q = 0) : q = [] := by
  cases q with
  | nil => rfl
  | cons e q =>
    have := Tree.size_pos e.t
    rw [totalFuel_cons] at h
    omega

theorem leavesOf_nil : leavesOf ([] : List (Entry τ)) = [] := rfl

theorem leavesOf_cons (e : Entry τ) (q) :
    leavesOf (e :: q) = e.t.leaves.map (fun i => (i, e.tag)) ++ leavesOf q := by
  simp [leavesOf]

theorem leavesOf_append (q r : List (Entry τ)) : leavesOf (q ++ r) = leavesOf q ++ leavesOf r := by
  simp [leavesOf]

theorem leavesOf_perm {q r : List (Entry τ)} (h : q.Perm r) : (leavesOf q).Perm (leavesOf r) :=
  List.Perm.flatMap_right _ h

theorem leavesOf_children (cs : List Tree) (s : τ) :
    leavesOf (cs.map (fun c => (⟨c, s⟩ : Entry τ))) = (leavesList cs).map (fun i => (i, s)) := by
  induction cs with
  | nil => rfl
  | cons c cs ih => simp [leavesOf_cons, leavesList, ih]

theorem bestFirst_zero (choose : List (Entry τ) → Nat) (q) : bestFirst choose 0 q = [] := by
  simp [bestFirst]

theorem bestFirst_nil (choose : List (Entry τ) → Nat) (fuel) : bestFirst choose fuel [] = [] := by
  cases fuel <;> simp [bestFirst]

/-! ## T17.1a completeness -/

/-- T17.1a: in-bounds choice suffices -/
theorem bestFirst_complete_of_inBounds (choose : List (Entry τ) → Nat) (hc : ∀ q : List (Entry τ), q ≠ [] → choose q < q.length)
    (fuel : Nat) (q : List (Entry τ)) (hq : totalFuel q ≤ fuel) :
    (bestFirst choose fuel q).Perm (leavesOf q) := by
  fun_induction bestFirst choose fuel q with
  | case1 q =>
    rw [eq_nil_of_totalFuel_eq_zero (Nat.le_zero.1 hq)]
    rfl
  | case2 => rfl
  | case3 fuel q hne i hi => exact absurd (hc q hne) (Nat.not_lt.2 (List.getElem?_eq_none_iff.1 hi))
  | case4 fuel q _ i e he rest id ht ih =>
    -- a leaf is popped: it accounts for one unit of fuel and for itself
    have hp : (e :: rest).Perm q := pop_perm he
    have hf := totalFuel_perm hp
    rw [totalFuel_cons, ht, Tree.size] at hf
    refine ((ih (by omega)).cons _).trans (.trans ?_ (leavesOf_perm hp))
    rw [leavesOf_cons, ht]
    rfl
  | case5 fuel q _ i e he rest cs ht ih =>
    -- a node is popped: its children take its place
    have hp : (e :: rest).Perm q := pop_perm he
    have hf := totalFuel_perm hp
    rw [totalFuel_cons, ht, Tree.size] at hf
    refine (ih ?_).trans (.trans ?_ (leavesOf_perm hp))
    · rw [totalFuel_append, totalFuel_children]
      omega
    · rw [leavesOf_append, leavesOf_children, leavesOf_cons, ht]
      exact List.perm_append_comm

/-- T17.1a: with enough fuel every leaf of every initial subtree is emitted exactly once, with the tag of its subtree -/
theorem bestFirst_complete (key : Entry τ → Rat) (choose : List (Entry τ) → Nat)
    (hv : Valid key choose) (fuel : Nat) (q : List (Entry τ)) (hf : totalFuel q ≤ fuel) :
    (bestFirst choose fuel q).Perm
      (q.flatMap (fun e => e.t.leaves.map (fun i => (i, e.tag)))) :=
  bestFirst_complete_of_inBounds choose (fun q hq => (hv q hq).1) fuel q hf

/-! ## T17.1b sortedness -/

/-- needs `LB` only: no assumption on `choose` or on the fuel -/
theorem bestFirst_lower_bound (key : Entry τ → Rat) (hLB : LB key)
    (choose : List (Entry τ) → Nat) (b : Rat) (fuel : Nat) (q : List (Entry τ))
    (hb : ∀ e ∈ q, b ≤ key e) : ∀ p ∈ bestFirst choose fuel q, b ≤ pairKey key p := by
  fun_induction bestFirst choose fuel q with
  | case1 | case2 | case3 => simp
  | case4 fuel q _ i e he rest id ht ih =>
    obtain ⟨hbe, hrest⟩ := List.forall_mem_cons.1 fun x hx => hb x ((pop_perm he).subset hx)
    rintro p (_ | ⟨_, hp⟩)
    · rwa [pairKey, ← ht]
    · exact ih hrest p hp
  | case5 fuel q _ i e he rest cs ht ih =>
    obtain ⟨hbe, hrest⟩ := List.forall_mem_cons.1 fun x hx => hb x ((pop_perm he).subset hx)
    refine ih fun e' he' => ?_
    rcases List.mem_append.1 he' with h | h
    · exact hrest e' h
    · obtain ⟨c, hc, rfl⟩ := List.mem_map.1 h
      have := hLB cs e.tag c hc
      rw [← ht] at this
      exact hbe.trans this

/-- T17.1b: the emitted keys are non-decreasing, for every fuel -/
theorem bestFirst_sorted (key : Entry τ → Rat) (hLB : LB key)
    (choose : List (Entry τ) → Nat) (hv : Valid key choose) :
    ∀ (fuel : Nat) (q : List (Entry τ)),
      List.Pairwise (· ≤ ·)
        ((bestFirst choose fuel q).map (fun p : Nat × τ => key ⟨.leaf p.1, p.2⟩)) := by
  intro fuel q
  fun_induction bestFirst choose fuel q with
  | case1 | case2 | case3 => simp
  | case4 fuel q hne i e he rest id ht ih =>
    -- the popped leaf is minimal in the queue, so its key bounds everything emitted later
    obtain ⟨hi, hmin⟩ := hv q hne
    obtain rfl : q[choose q] = e := (List.getElem?_eq_some_iff.1 he).2
    refine List.pairwise_cons.2 ⟨?_, ih⟩
    simp only [List.mem_map, forall_exists_index, and_imp, forall_apply_eq_imp_iff₂]
    rw [show key ⟨.leaf id, q[choose q].tag⟩ = key q[choose q] by rw [← ht]]
    exact bestFirst_lower_bound key hLB choose _ fuel rest
      fun e' he' => hmin e' ((pop_perm he).subset (List.mem_cons_of_mem _ he'))
  | case5 _ _ _ _ _ _ _ _ _ ih => exact ih

/-! ## `LB` reaches from the children to all leaves below an entry -/

mutual
theorem key_le_leaf (key : Entry τ → Rat) (hLB : LB key) (s : τ) :
    ∀ (t : Tree) (i : Nat), i ∈ t.leaves → key ⟨t, s⟩ ≤ key ⟨.leaf i, s⟩
  | .leaf j, i, h => by
    simp only [Tree.leaves, List.mem_singleton] at h
    subst h
    exact Rat.le_refl
  | .node cs, i, h => by
    simp only [Tree.leaves] at h
    obtain ⟨c, hc, hle⟩ := key_le_leaf_list key hLB s cs i h
    exact Rat.le_trans (hLB cs s c hc) hle
theorem key_le_leaf_list (key : Entry τ → Rat) (hLB : LB key) (s : τ) :
    ∀ (cs : List Tree) (i : Nat), i ∈ leavesList cs →
      ∃ c ∈ cs, key ⟨c, s⟩ ≤ key ⟨.leaf i, s⟩
  | [], i, h => by simp [leavesList] at h
  | c :: cs, i, h => by
    simp only [leavesList, List.mem_append] at h
    rcases h with h | h
    · exact ⟨c, List.mem_cons_self, key_le_leaf key hLB s c i h⟩
    · obtain ⟨c', hc', hle⟩ := key_le_leaf_list key hLB s cs i h
      exact ⟨c', List.mem_cons_of_mem _ hc', hle⟩
end

theorem key_le_leavesOf (key : Entry τ → Rat) (hLB : LB key) (e : Entry τ) :
    ∀ p ∈ leavesOf [e], key e ≤ pairKey key p := by
  intro p hp
  simp only [leavesOf, List.flatMap_cons, List.flatMap_nil, List.append_nil, List.mem_map] at hp
  obtain ⟨i, hi, rfl⟩ := hp
  exact key_le_leaf key hLB e.tag e.t i hi

/-! ## `argminFirst`, the tie-breaking of the driver, is a valid choice -/

/-- loop invariant of `argminFirst`, about to read `q.drop i`: `bi` is the first position with minimal key among the first `i` -/
theorem argminFirst_go_spec {α} (key : α → Rat) (q : List α) :
    ∀ (n i bi : Nat), i + n = q.length → ∀ (hb : bi < q.length), bi < i →
      (∀ j (hj : j < q.length), j < i → key q[bi] ≤ key q[j]) →
      (∀ j (hj : j < q.length), j < bi → key q[bi] < key q[j]) →
      ∃ h : argminFirst.go key (key q[bi]) bi i (q.drop i) < q.length,
        (∀ e ∈ q, key q[argminFirst.go key (key q[bi]) bi i (q.drop i)] ≤ key e) ∧
        ∀ j (hj : j < argminFirst.go key (key q[bi]) bi i (q.drop i)),
          key q[argminFirst.go key (key q[bi]) bi i (q.drop i)] < key (q[j]'(hj.trans h)) := by
  intro n
  induction n with
  | zero =>
    intro i bi hi hb hbi hmin hfirst
    simp only [List.drop_of_length_le (show q.length ≤ i by omega), argminFirst.go]
    refine ⟨hb, fun e he => ?_, fun j hj => hfirst j (hj.trans hb) hj⟩
    obtain ⟨j, hj, rfl⟩ := List.getElem_of_mem he
    exact hmin j hj (by omega)
  | succ n ih =>
    intro i bi hi hb hbi hmin hfirst
    have hi' : i < q.length := by omega
    simp only [List.drop_eq_getElem_cons hi', argminFirst.go]
    split
    · next hlt =>
      -- `q[i]` is smaller than all before it
      refine ih (i + 1) i (by omega) hi' i.lt_succ_self (fun j hj hji => ?_) fun j hj hji => hlt.trans_le (hmin j hj hji)
      rcases Nat.lt_succ_iff_lt_or_eq.1 hji with h | rfl
      · exact (hlt.trans_le (hmin j hj h)).le
      · exact le_rfl
    · next hnlt =>
      refine ih (i + 1) bi (by omega) hb (hbi.trans i.lt_succ_self) (fun j hj hji => ?_) hfirst
      rcases Nat.lt_succ_iff_lt_or_eq.1 hji with h | rfl
      · exact hmin j hj h
      · exact not_lt.1 hnlt

/-- `argminFirst` returns the *first* position with minimal key -/
theorem argminFirst_spec {α} (key : α → Rat) (q : List α) (hq : q ≠ []) :
    ∃ h : argminFirst key q < q.length,
      (∀ e ∈ q, key (q[argminFirst key q]'h) ≤ key e) ∧
      (∀ j (hj : j < argminFirst key q), key (q[argminFirst key q]'h) < key (q[j]'(hj.trans h))) := by
  cases q with
  | nil => exact absurd rfl hq
  | cons x xs =>
    refine argminFirst_go_spec key (x :: xs) xs.length 1 0 (Nat.add_comm _ _) (Nat.succ_pos _) Nat.one_pos
      (fun j _ hj => ?_) (fun j _ hj => absurd hj (Nat.not_lt_zero j))
    obtain rfl := Nat.lt_one_iff.1 hj
    exact le_rfl

theorem argminFirst_valid (key : Entry τ → Rat) : Valid key (argminFirst key) := by
  intro q hq
  obtain ⟨h, hmin, _⟩ := argminFirst_spec key q hq
  exact ⟨h, hmin⟩

/-! ## T17.2 the envelope distance is a lower bound -/

section ClampOrder
variable {K : Type} [LinearOrder K]

/-- the Rust `clamp(x, min, max) = x.max(min).min(max)` -/
def clamp (lo hi x : K) : K := min (max x lo) hi

theorem clamp_mem {lo hi : K} (h : lo ≤ hi) (x : K) : lo ≤ clamp lo hi x ∧ clamp lo hi x ≤ hi :=
  ⟨le_min (le_max_right _ _) h, min_le_right _ _⟩

theorem clamp_point (p x : K) : clamp p p x = p := by
  unfold clamp
  exact le_antisymm (min_le_right _ _) (le_min (le_max_right _ _) le_rfl)

end ClampOrder

section Clamp
variable {K : Type} [CommRing K] [LinearOrder K] [IsStrictOrderedRing K]

/-- T17.2, one coordinate -/
theorem clamp_lower_bound {lo hi p : K} (x : K) (h1 : lo ≤ p) (h2 : p ≤ hi) :
    (min (max x lo) hi - x) ^ 2 ≤ (p - x) ^ 2 := by
  -- the clamped point lies between `x` and `p`
  rcases le_total x p with hx | hx
  · have hc : min (max x lo) hi ≤ p := (min_le_left _ _).trans (max_le hx h1)
    have hxc : x ≤ min (max x lo) hi := le_min (le_max_left _ _) (hx.trans h2)
    exact pow_le_pow_left₀ (sub_nonneg.2 hxc) (sub_le_sub_right hc x) 2
  · have hc : p ≤ min (max x lo) hi := le_min (hx.trans (le_max_left _ _)) h2
    have hcx : min (max x lo) hi ≤ x := (min_le_left _ _).trans (max_le le_rfl (h1.trans hx))
    rw [sub_sq_comm _ x, sub_sq_comm p x]
    exact pow_le_pow_left₀ (sub_nonneg.2 hcx) (sub_le_sub_left hc x) 2

/-- T17.2 in the other order of `min`/`max` (equal to the Rust form whenever `lo ≤ hi`) -/
theorem clamp_lower_bound' {lo hi p : K} (x : K) (h1 : lo ≤ p) (h2 : p ≤ hi) :
    (max lo (min x hi) - x) ^ 2 ≤ (p - x) ^ 2 := by
  have : max lo (min x hi) = min (max x lo) hi := by
    rw [max_comm, max_min_distrib_right, max_eq_left (h1.trans h2)]
  rw [this]
  exact clamp_lower_bound x h1 h2

example {lo hi p : ℝ} (x : ℝ) (h1 : lo ≤ p) (h2 : p ≤ hi) :
    (min (max x lo) hi - x) ^ 2 ≤ (p - x) ^ 2 := clamp_lower_bound x h1 h2
example {lo hi p : ℚ} (x : ℚ) (h1 : lo ≤ p) (h2 : p ≤ hi) :
    (min (max x lo) hi - x) ^ 2 ≤ (p - x) ^ 2 := clamp_lower_bound x h1 h2

theorem clamp_nested {lo hi lo' hi' : K} (x : K) (hlo : lo ≤ lo') (hhi : hi' ≤ hi)
    (hne : lo' ≤ hi') :
    (clamp lo hi x - x) ^ 2 ≤ (clamp lo' hi' x - x) ^ 2 := by
  obtain ⟨h1, h2⟩ := clamp_mem hne x
  exact clamp_lower_bound x (hlo.trans h1) (h2.trans hhi)

def dist2 (p x : Fin 3 → K) : K :=
  (p 0 - x 0) ^ 2 + (p 1 - x 1) ^ 2 + (p 2 - x 2) ^ 2

/-- squared distance of `x` to the box `[lo, hi]`, as computed by `wrapping_distance_2` for an AABB -/
def envDist2 (lo hi x : Fin 3 → K) : K :=
  (clamp (lo 0) (hi 0) (x 0) - x 0) ^ 2 + (clamp (lo 1) (hi 1) (x 1) - x 1) ^ 2
    + (clamp (lo 2) (hi 2) (x 2) - x 2) ^ 2

/-- T17.2: the envelope distance is a lower bound of the distance to every point inside the box -/
theorem envDist2_le_dist2 {lo hi p : Fin 3 → K} (x : Fin 3 → K)
    (h1 : ∀ i, lo i ≤ p i) (h2 : ∀ i, p i ≤ hi i) :
    envDist2 lo hi x ≤ dist2 p x := by
  unfold envDist2 dist2 clamp
  exact add_le_add (add_le_add (clamp_lower_bound _ (h1 0) (h2 0))
    (clamp_lower_bound _ (h1 1) (h2 1))) (clamp_lower_bound _ (h1 2) (h2 2))

/-- T17.2, nested boxes -/
theorem envDist2_nested {lo hi lo' hi' : Fin 3 → K} (x : Fin 3 → K)
    (hlo : ∀ i, lo i ≤ lo' i) (hhi : ∀ i, hi' i ≤ hi i) (hne : ∀ i, lo' i ≤ hi' i) :
    envDist2 lo hi x ≤ envDist2 lo' hi' x := by
  unfold envDist2
  exact add_le_add (add_le_add (clamp_nested _ (hlo 0) (hhi 0) (hne 0))
    (clamp_nested _ (hlo 1) (hhi 1) (hne 1))) (clamp_nested _ (hlo 2) (hhi 2) (hne 2))

omit [IsStrictOrderedRing K] in
theorem envDist2_point (p x : Fin 3 → K) : envDist2 p p x = dist2 p x := by
  simp [envDist2, dist2, clamp_point]

theorem envDist2_nonneg (lo hi x : Fin 3 → K) : 0 ≤ envDist2 lo hi x := by
  unfold envDist2
  positivity

end Clamp

/-- the key used by the code: envelope distance from the shifted query point `pt s`; `lo t`, `hi t` are the corners of the
envelope of subtree `t` (degenerate for a leaf) -/
def boxKey (lo hi : Tree → Fin 3 → Rat) (pt : τ → Fin 3 → Rat) (e : Entry τ) : Rat :=
  envDist2 (lo e.t) (hi e.t) (pt e.tag)

theorem LB_boxKey (lo hi : Tree → Fin 3 → Rat) (pt : τ → Fin 3 → Rat)
    (hne : ∀ t i, lo t i ≤ hi t i)
    (hnest : ∀ cs c, c ∈ cs → ∀ i, lo (.node cs) i ≤ lo c i ∧ hi c i ≤ hi (.node cs) i) :
    LB (boxKey lo hi pt) := by
  intro cs s c hc
  exact envDist2_nested _ (fun i => (hnest cs c hc i).1) (fun i => (hnest cs c hc i).2)
    (fun i => hne c i)

/-- a leaf's envelope is the position of its generator (`lo = hi`): the key is the squared distance -/
theorem boxKey_leaf (lo hi : Tree → Fin 3 → Rat) (pt : τ → Fin 3 → Rat) (i : Nat) (s : τ)
    (h : lo (.leaf i) = hi (.leaf i)) :
    boxKey lo hi pt ⟨.leaf i, s⟩ = dist2 (lo (.leaf i)) (pt s) := by
  simp [boxKey, ← h, envDist2_point]

/-! ## T17.3 the initial queue: every generator once per shift, the query point itself first -/

theorem initQueue_leaves (root : Tree) (shifts : List τ) :
    (initQueue root shifts).flatMap (fun e => e.t.leaves.map (fun i => (i, e.tag)))
      = shifts.flatMap (fun s => root.leaves.map (fun i => (i, s))) := by
  cases root with
  | leaf i => simp [initQueue, List.flatMap_map, Tree.leaves]
  | node cs =>
    simp only [initQueue, List.flatMap_assoc, Tree.leaves]
    exact List.flatMap_congr fun s _ => leavesOf_children cs s

theorem bestFirst_initQueue (key : Entry τ → Rat) (choose : List (Entry τ) → Nat)
    (hv : Valid key choose) (root : Tree) (shifts : List τ) (fuel : Nat)
    (hf : totalFuel (initQueue root shifts) ≤ fuel) :
    (bestFirst choose fuel (initQueue root shifts)).Perm
      (shifts.flatMap (fun s => root.leaves.map (fun i => (i, s)))) := by
  rw [← initQueue_leaves]
  exact bestFirst_complete key choose hv fuel _ hf

theorem count_fst_flatMap (shifts : List τ) (l : List Nat) (i : Nat) :
    ((shifts.flatMap fun s => l.map fun j => (j, s)).map Prod.fst).count i = shifts.length * l.count i := by
  induction shifts with
  | nil => simp
  | cons s ss ih =>
    simp [List.flatMap_cons, List.count_append, ih, List.map_map, Function.comp_def, Nat.succ_mul, Nat.add_comm]

/-- once per shift for each occurrence of `i` as a leaf -/
theorem visits_per_generator (key : Entry τ → Rat) (choose : List (Entry τ) → Nat)
    (hv : Valid key choose) (root : Tree) (shifts : List τ) (fuel : Nat)
    (hf : totalFuel (initQueue root shifts) ≤ fuel) (i : Nat) :
    ((bestFirst choose fuel (initQueue root shifts)).map Prod.fst).count i
      = shifts.length * root.leaves.count i := by
  rw [((bestFirst_initQueue key choose hv root shifts fuel hf).map Prod.fst).count_eq, count_fst_flatMap]

/-- T17.3: a (leaf, shift) pair with key `0`, all others having key `> 0`, is emitted first -/
theorem self_first (key : Entry τ → Rat) (hLB : LB key)
    (choose : List (Entry τ) → Nat) (hv : Valid key choose)
    (fuel : Nat) (q : List (Entry τ)) (hf : totalFuel q ≤ fuel)
    (i0 : Nat) (s0 : τ)
    (hmem : (i0, s0) ∈ q.flatMap (fun e => e.t.leaves.map (fun i => (i, e.tag))))
    (h0 : key ⟨.leaf i0, s0⟩ = 0)
    (hpos : ∀ p ∈ q.flatMap (fun e => e.t.leaves.map (fun i => (i, e.tag))),
      p ≠ (i0, s0) → 0 < key ⟨.leaf p.1, p.2⟩) :
    (bestFirst choose fuel q).head? = some (i0, s0) := by
  have hperm := bestFirst_complete key choose hv fuel q hf
  have hsorted := bestFirst_sorted key hLB choose hv fuel q
  cases hout : bestFirst choose fuel q with
  | nil => simpa [hout] using hperm.mem_iff.2 hmem
  | cons p rest =>
    rw [hout] at hperm hsorted
    refine congrArg some (by_contra fun hne => ?_)
    -- otherwise `(i0, s0)` comes later, with a key `0` below the positive key of `p`
    have hrest := (List.mem_cons.1 (hperm.mem_iff.2 hmem)).resolve_left (Ne.symm hne)
    have h1 := hpos p (hperm.mem_iff.1 List.mem_cons_self) hne
    have h2 := List.rel_of_pairwise_cons hsorted
      (List.mem_map_of_mem (f := fun p : Nat × τ => key ⟨.leaf p.1, p.2⟩) hrest)
    exact absurd h1 (not_lt.2 (h0 ▸ h2))

/-- a sample key: leaves `0,1,2` at squared distance `5,2,3` under shift `0` and `6,3,4` under shift `1`; inner nodes `0`
resp. `1`, a lower bound of their children -/
def exKey (e : Entry Nat) : Rat :=
  match e.t, e.tag with
  | .leaf 0, 0 => 5
  | .leaf 0, _ => 6
  | .leaf 1, 0 => 2
  | .leaf 1, _ => 3
  | .leaf _, 0 => 3
  | .leaf _, _ => 4
  | .node _, 0 => 0
  | .node _, _ => 1

/-- the same key with arithmetic: `d(leaf) + tag`, inner nodes `tag` -/
def exKey' (e : Entry Nat) : Rat :=
  match e.t with
  | .leaf 0 => 5 + e.tag
  | .leaf 1 => 2 + e.tag
  | .leaf _ => 3 + e.tag
  | .node _ => e.tag

/-- the keys of the output are `2, 3, 3, 4, 5, 6`: one tie, broken towards the earlier queue position -/
example :
    bestFirst (argminFirst exKey) 10
      (initQueue (.node [.leaf 0, .node [.leaf 1, .leaf 2]]) [0, 1])
      = [(1, 0), (2, 0), (1, 1), (2, 1), (0, 0), (0, 1)] := by
  decide

example :
    (bestFirst (argminFirst exKey) 10
      (initQueue (.node [.leaf 0, .node [.leaf 1, .leaf 2]]) [0, 1])).map
        (fun p => exKey ⟨.leaf p.1, p.2⟩) = [2, 3, 3, 4, 5, 6] := by
  decide

example : totalFuel (initQueue (.node [.leaf 0, .node [.leaf 1, .leaf 2]]) [0, 1]) = 8 := by
  decide

example :
    bestFirst (argminFirst exKey') 8
      (initQueue (.node [.leaf 0, .node [.leaf 1, .leaf 2]]) [0, 1])
      = [(1, 0), (2, 0), (1, 1), (2, 1), (0, 0), (0, 1)] := by
  decide +kernel

#print axioms bestFirst_complete_of_inBounds
#print axioms bestFirst_complete
#print axioms bestFirst_lower_bound
#print axioms bestFirst_sorted
#print axioms key_le_leaf
#print axioms key_le_leavesOf
#print axioms argminFirst_spec
#print axioms argminFirst_valid
#print axioms initQueue_leaves
#print axioms bestFirst_initQueue
#print axioms self_first
#print axioms visits_per_generator
#print axioms clamp_lower_bound'
#print axioms clamp_lower_bound
#print axioms clamp_nested
#print axioms envDist2_le_dist2
#print axioms envDist2_nested
#print axioms envDist2_point
#print axioms LB_boxKey
#print axioms boxKey_leaf

end MVoro.BestFirst
