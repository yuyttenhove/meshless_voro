/-
The array model `Cycle` of `SimpleCycle` (src/simple_cycle.rs) and the executable `Clip.computeBoundary`
(src/voronoi/convex_cell.rs:429-449) against the successor-function combinatorics of `CycleBoundary`, whose namespace this file
continues.  A: `tryRot`, `tryExtend`, `init` implement `aTryRot`, `aTryExtend`, `triSucc` on `c.get`.  B: the loop of
`compute_boundary` performs a `GreedyRaw` run on the vertices it consumes, so its result is `bdry` of them.
-/
import MVoro.Proofs.CycleBoundary

namespace MVoro.CycleBoundary
open Relation (ReflTransGen)

/-! ## A. The array model refines the abstract successor function (T18.1) -/

theorem get_set (c : Cycle) (i v x : Nat) :
    (c.set i v).get x = if x = i ∧ i < c.ptrs.size then v else c.get x := by
  simp only [Cycle.get, Cycle.set, Array.getD_eq_getD_getElem?, Array.getElem?_setIfInBounds]
  grind

theorem size_set (c : Cycle) (i v : Nat) : (c.set i v).ptrs.size = c.ptrs.size := by
  simp [Cycle.set]

theorem get_set_lt {c : Cycle} {i : Nat} (h : i < c.ptrs.size) (v : Nat) :
    (c.set i v).get = upd c.get i v := by
  funext x
  simp only [get_set, upd, h, and_true]

theorem get_of_ge (c : Cycle) (x : Nat) (h : c.ptrs.size ≤ x) : c.get x = x := by
  simp [Cycle.get, Array.getD_eq_getD_getElem?, h]

/-- `get` reads only the array: rewrapping a cycle with other `start`, `len` does not change it (stated once, because
`rfl` on a concrete instance makes the unifier compare the records field by field first) -/
theorem get_mk (c : Cycle) (s l : Nat) : (⟨c.ptrs, s, l⟩ : Cycle).get = c.get := rfl

theorem get_set_set {c : Cycle} {i k : Nat} (hk : k < c.ptrs.size) (hi : i < c.ptrs.size) {a b s l : Nat} :
    (⟨((c.set k a).set i b).ptrs, s, l⟩ : Cycle).get = upd (upd c.get k a) i b := by
  rw [get_mk, get_set_lt (by rwa [size_set]), get_set_lt hk]

theorem tryRot_def (c : Cycle) (ti tj tk : Nat) : c.tryRot ti tj tk =
    if Cond1 c.get ti tj tk then some { (c.set tk ti).set ti tj with len := c.len + 1 }
    else if Cond2 c.get ti tj tk then
      some { (c.set tk ti).set tj tj with start := if c.start = tj then ti else c.start, len := c.len - 1 }
    else none := by
  have h1 : (!c.contains ti && c.contains tj && c.contains tk && c.get tk == tj) = true ↔ Cond1 c.get ti tj tk := by
    simp [Cycle.contains, Cond1, and_assoc]
  have h2 : (c.contains ti && c.contains tj && c.contains tk && c.get tk == tj && c.get tj == ti) = true ↔
      Cond2 c.get ti tj tk := by
    simp [Cycle.contains, Cond2, and_assoc]
  unfold Cycle.tryRot
  simp only [h1, h2]
  refine if_congr Iff.rfl rfl (if_congr Iff.rfl ?_ rfl)
  by_cases e : c.start = tj <;> simp [e, Cycle.set]

theorem tryRot_eq_some {c c' : Cycle} {ti tj tk : Nat} (hi : ti < c.ptrs.size) (hj : tj < c.ptrs.size)
    (hk : tk < c.ptrs.size) (h : c.tryRot ti tj tk = some c') :
    c'.ptrs.size = c.ptrs.size ∧
      (Cond1 c.get ti tj tk ∧ c'.get = ins c.get ti tj tk ∧ c'.start = c.start ∧ c'.len = c.len + 1 ∨
        Cond2 c.get ti tj tk ∧ c'.get = del c.get ti tj tk ∧
          c'.start = (if c.start = tj then ti else c.start) ∧ c'.len = c.len - 1) := by
  rw [tryRot_def] at h
  split at h
  next h1 =>
    obtain rfl := Option.some.inj h
    exact ⟨by simp only [size_set], .inl ⟨h1, get_set_set hk hi, rfl, rfl⟩⟩
  next =>
    split at h
    next h2 =>
      obtain rfl := Option.some.inj h
      exact ⟨by simp only [size_set], .inr ⟨h2, get_set_set hk hj, rfl, rfl⟩⟩
    next => cases h

theorem tryRot_refines (c : Cycle) {ti tj tk : Nat} (hi : ti < c.ptrs.size)
    (hj : tj < c.ptrs.size) (hk : tk < c.ptrs.size) :
    (c.tryRot ti tj tk).map Cycle.get = aTryRot c.get ti tj tk := by
  rw [tryRot_def, aTryRot]
  split
  · exact congrArg some (get_set_set hk hi)
  · split
    · exact congrArg some (get_set_set hk hj)
    · rfl

/-- **T18.1 (`try_extend`).**  On in-range indices the array `try_extend` is the abstract three-rotation step on `c.get`,
failure included. -/
theorem tryExtend_refines (c : Cycle) {a b d : Nat} (ha : a < c.ptrs.size)
    (hb : b < c.ptrs.size) (hd : d < c.ptrs.size) :
    (c.tryExtend a b d).map Cycle.get = aTryExtend c.get ⟨a, b, d⟩ := by
  have h1 := tryRot_refines c ha hb hd
  have h2 := tryRot_refines c hb hd ha
  have h3 := tryRot_refines c hd ha hb
  unfold Cycle.tryExtend aTryExtend
  simp only []  -- reduces the `let`s and `match`es only
  rw [← h1, ← h2, ← h3]
  cases c.tryRot a b d <;> cases c.tryRot b d a <;> cases c.tryRot d a b <;> rfl

theorem tryExtend_eq_some {c c' : Cycle} {a b d : Nat} (h : c.tryExtend a b d = some c') :
    ∃ t', IsRot t' ⟨a, b, d⟩ ∧ c.tryRot t'.a t'.b t'.c = some c' := by
  unfold Cycle.tryExtend at h
  split at h
  next r h1 => exact ⟨⟨a, b, d⟩, .inl rfl, h ▸ h1⟩
  next =>
    split at h
    next r h2 => exact ⟨⟨b, d, a⟩, .inr (.inl rfl), h ▸ h2⟩
    next => exact ⟨⟨d, a, b⟩, .inr (.inr rfl), h⟩

theorem tryExtend_get {c c' : Cycle} {a b d : Nat} (ha : a < c.ptrs.size)
    (hb : b < c.ptrs.size) (hd : d < c.ptrs.size) (h : c.tryExtend a b d = some c') :
    c'.ptrs.size = c.ptrs.size ∧
      ∃ t', IsRot t' ⟨a, b, d⟩ ∧ aTryRot c.get t'.a t'.b t'.c = some c'.get := by
  obtain ⟨t', hr, h'⟩ := tryExtend_eq_some h
  obtain ⟨h1, h2, h3⟩ : t'.a < c.ptrs.size ∧ t'.b < c.ptrs.size ∧ t'.c < c.ptrs.size := by
    rcases hr with rfl | rfl | rfl
    exacts [⟨ha, hb, hd⟩, ⟨hb, hd, ha⟩, ⟨hd, ha, hb⟩]
  obtain ⟨hsz, hcase⟩ := tryRot_eq_some h1 h2 h3 h'
  exact ⟨hsz, t', hr, aTryRot_eq_some.2 (hcase.imp (fun h => ⟨h.1, h.2.1⟩) fun h => ⟨h.1, h.2.1⟩)⟩

theorem walk_set_of_not_mem {n : Nat} {c : Cycle} {cur v s : Nat}
    (h : cur ∉ Cycle.walk n c s) : Cycle.walk n (c.set cur v) s = Cycle.walk n c s := by
  induction n generalizing s with
  | zero => rfl
  | succ n ih =>
    simp only [Cycle.walk, List.mem_cons, not_or] at h ⊢
    rw [get_set, if_neg fun hh => h.1 hh.1.symm, ih h.2]

theorem resetWalk_size (n : Nat) (c : Cycle) (cur : Nat) :
    (Cycle.resetWalk n c cur).ptrs.size = c.ptrs.size ∧
    (Cycle.resetWalk n c cur).len = c.len ∧ (Cycle.resetWalk n c cur).start = c.start := by
  induction n generalizing c cur with
  | zero => exact ⟨rfl, rfl, rfl⟩
  | succ n ih =>
    simp only [Cycle.resetWalk]
    obtain ⟨h1, h2, h3⟩ := ih (c.set cur cur) (c.get cur)
    exact ⟨h1.trans (size_set _ _ _), h2, h3⟩

theorem resetWalk_get {n : Nat} {c : Cycle} {cur : Nat} (h : (Cycle.walk n c cur).Nodup)
    (x : Nat) :
    (Cycle.resetWalk n c cur).get x = if x ∈ Cycle.walk n c cur then x else c.get x := by
  induction n generalizing c cur with
  | zero => simp [Cycle.resetWalk, Cycle.walk]
  | succ n ih =>
    simp only [Cycle.walk, List.nodup_cons] at h
    simp only [Cycle.resetWalk, Cycle.walk, List.mem_cons]
    have hw := walk_set_of_not_mem (v := cur) h.1
    rw [ih (by rw [hw]; exact h.2), hw, get_set]
    have := get_of_ge c cur
    grind

/-- **T18.1 (`init`).**  `hnd`, `hcov` are the representation invariant of `SimpleCycle` that the reset loop of `init` relies
on: `len` steps from `start` visit every entry with `get x ≠ x`, each once. -/
theorem init_get {c : Cycle} {a b d : Nat} (hnd : (Cycle.walk c.len c c.start).Nodup)
    (hcov : ∀ x, c.get x ≠ x → x ∈ Cycle.walk c.len c c.start)
    (ha : a < c.ptrs.size) (hb : b < c.ptrs.size) (hd : d < c.ptrs.size) :
    (c.init a b d).get = triSucc a b d ∧ (c.init a b d).len = 3 ∧ (c.init a b d).start = a ∧
      (c.init a b d).ptrs.size = c.ptrs.size := by
  have s1 := (resetWalk_size c.len c c.start).1
  have hreset : (Cycle.resetWalk c.len c c.start).get = id := funext fun x => by
    rw [resetWalk_get hnd]
    exact ite_eq_left_iff.2 fun hx => not_not.1 fun hne => hx (hcov x hne)
  refine ⟨?_, rfl, rfl, by simp only [Cycle.init, size_set, s1]⟩
  unfold Cycle.init
  simp only []
  rw [get_set_lt (by simpa only [size_set, s1] using hd), get_set_lt (by simpa only [size_set, s1] using hb),
    get_set_lt (by simpa only [s1] using ha), get_mk, hreset]
  rfl

/-! ## B. The executable `computeBoundary` performs a raw greedy run -/

section Model
variable {V : Type}

def InRange (N : Nat) (d : Dual) : Prop := d.a < N ∧ d.b < N ∧ d.c < N

theorem findExt_spec {dual : V → Dual} {c c' : Cycle} {vs : Array V} {fuel idx j : Nat}
    (h : Clip.findExt dual c vs fuel idx = some (j, c')) :
    idx ≤ j ∧ ∃ h : j < vs.size, c.tryExtend (dual vs[j]).a (dual vs[j]).b (dual vs[j]).c = some c' := by
  fun_induction Clip.findExt dual c vs fuel idx with
  | case1 => cases h
  | case2 fuel idx hlt d c₁ hc₁ =>
    cases h
    exact ⟨Nat.le_refl _, hlt, hc₁⟩
  | case3 fuel idx hlt d hnone ih => exact ⟨Nat.le_of_succ_le (ih h).1, (ih h).2⟩
  | case4 => cases h

theorem swap_take {vs : Array V} {i j : Nat} (hij : i ≤ j) (hj : j < vs.size) :
    ((if j > i then vs.swapIfInBounds i j else vs).toList.take (i + 1)) =
      vs.toList.take i ++ [vs[j]] := by
  have hi : i < vs.size := by omega
  split
  next hgt =>
    rw [Array.swapIfInBounds_def, dif_pos hi, dif_pos hj, Array.toList_swap, List.take_set_of_le (by omega),
      List.take_succ_eq_append_getElem (by simpa using hi), List.take_set_of_le (Nat.le_refl i), List.getElem_set_self]
  next hle =>
    obtain rfl : j = i := by omega
    rw [List.take_succ_eq_append_getElem (by simpa using hi), Array.getElem_toList]

/-- the `toList` form of `FacesProofs.swapIfInBounds_arrayPerm` (that file imports core Lean only) -/
theorem swapIfInBounds_perm (vs : Array V) (i j : Nat) :
    (vs.swapIfInBounds i j).toList.Perm vs.toList := by
  rw [Array.swapIfInBounds_def]
  split_ifs with hi hj
  exacts [Array.perm_iff_toList_perm.1 (Array.swap_perm hi hj), .refl _, .refl _]

/-- the loop invariant of `compute_boundary`, for any predicate `P done c` on the vertices consumed so far (latest first) and
the cycle that every successful `try_extend` keeps; `Q` holds of all vertices and puts their triples in range -/
theorem boundaryLoop_inv {dual : V → Dual} {N : Nat} {Q : V → Prop} {P : List V → Cycle → Prop}
    (hQ : ∀ v, Q v → InRange N (dual v))
    (hstep : ∀ done c v c', Q v → InRange c.ptrs.size (dual v) → P done c →
      c.tryExtend (dual v).a (dual v).b (dual v).c = some c' → P (v :: done) c')
    {fuel i : Nat} {c c' : Cycle} {vs vs' : Array V} (h : Clip.boundaryLoop dual fuel i c vs = some (c', vs'))
    (hf : vs.size - i ≤ fuel) (hall : ∀ v ∈ vs.toList, Q v) (hN : c.ptrs.size = N) (hP : P (vs.toList.take i).reverse c) :
    vs'.toList.Perm vs.toList ∧ c'.ptrs.size = N ∧ P vs'.toList.reverse c' := by
  fun_induction Clip.boundaryLoop dual fuel i c vs with
  | case1 | case4 =>
    obtain ⟨rfl, rfl⟩ := Prod.mk.inj (Option.some.inj h)
    rw [List.take_of_length_le (Nat.le_trans (Nat.le_of_eq Array.length_toList) (by omega))] at hP
    exact ⟨.refl _, hN, hP⟩
  | case2 => cases h
  | case3 fuel i c vs hlt idx c₁ hfind ih =>
    obtain ⟨hle, hidx, hext⟩ := findExt_spec hfind
    have hperm : (if idx > i then vs.swapIfInBounds i idx else vs).toList.Perm vs.toList := by
      split
      exacts [swapIfInBounds_perm vs i idx, .refl _]
    have hsize : (if idx > i then vs.swapIfInBounds i idx else vs).size = vs.size := by split <;> simp
    have hq := hall vs[idx] (by simp)
    have hv : InRange c.ptrs.size (dual vs[idx]) := hN ▸ hQ _ hq
    obtain ⟨hp, hr⟩ := ih h (hsize.symm ▸ Nat.pred_le_pred hf) (fun v hv => hall v (hperm.mem_iff.1 hv))
      ((tryExtend_get hv.1 hv.2.1 hv.2.2 hext).1.trans hN)
      (by
        rw [swap_take hle hidx, List.reverse_append]
        exact hstep _ _ _ _ hq hv hP hext)
    exact ⟨hp.trans hperm, hr⟩

theorem computeBoundary_inv {dual : V → Dual} {Q : V → Prop} {P : List V → Cycle → Prop} {c c' : Cycle} {vs vs' : Array V}
    (hnd : (Cycle.walk c.len c c.start).Nodup) (hcov : ∀ x, c.get x ≠ x → x ∈ Cycle.walk c.len c c.start)
    (hQ : ∀ v, Q v → InRange c.ptrs.size (dual v))
    (hstep : ∀ done c₁ v c₂, Q v → InRange c₁.ptrs.size (dual v) → P done c₁ →
      c₁.tryExtend (dual v).a (dual v).b (dual v).c = some c₂ → P (v :: done) c₂)
    (hall : ∀ v ∈ vs.toList, Q v)
    (hinit : ∀ h : 0 < vs.size, P [vs[0]] (c.init (dual vs[0]).a (dual vs[0]).b (dual vs[0]).c))
    (h : Clip.computeBoundary dual c vs = some (c', vs')) :
    vs'.toList.Perm vs.toList ∧ c'.ptrs.size = c.ptrs.size ∧ P vs'.toList.reverse c' := by
  unfold Clip.computeBoundary at h
  split at h
  next hpos =>
    have hv := hQ _ (hall vs[0] (by simp))
    refine boundaryLoop_inv hQ hstep h (by omega) hall
      (init_get hnd hcov hv.1 hv.2.1 hv.2.2).2.2.2 ?_
    rw [List.take_succ_eq_append_getElem (by simpa using hpos)]
    exact hinit hpos
  next => cases h

/-- **`compute_boundary` is a raw greedy run** over the duals of the rearranged array `vs'` it returns. -/
theorem computeBoundary_greedy {dual : V → Dual} {c c' : Cycle} {vs vs' : Array V}
    (hnd : (Cycle.walk c.len c c.start).Nodup)
    (hcov : ∀ x, c.get x ≠ x → x ∈ Cycle.walk c.len c c.start)
    (hR : ∀ v ∈ vs.toList, InRange c.ptrs.size (dual v))
    (hdist : ∀ h : 0 < vs.size, (dual vs[0]).a ≠ (dual vs[0]).b ∧
      (dual vs[0]).b ≠ (dual vs[0]).c ∧ (dual vs[0]).c ≠ (dual vs[0]).a)
    (h : Clip.computeBoundary dual c vs = some (c', vs')) :
    vs'.toList.Perm vs.toList ∧ GreedyRaw ((vs'.toList.map dual).reverse) c'.get ∧
      c'.ptrs.size = c.ptrs.size := by
  rw [← List.map_reverse]
  refine (computeBoundary_inv (P := fun done c₁ => GreedyRaw (done.map dual) c₁.get) hnd hcov
    (fun _ hv => hv) ?_ hR (fun hpos => ?_) h).imp_right And.symm
  · intro done c₁ v c₂ _ hv hG hext
    obtain ⟨_, t', hrot, hrot'⟩ := tryExtend_get hv.1 hv.2.1 hv.2.2 hext
    exact GreedyRaw.step hG hrot hrot'
  · have hr := hR vs[0] (by simp)
    obtain ⟨hd1, hd2, hd3⟩ := hdist hpos
    exact (init_get hnd hcov hr.1 hr.2.1 hr.2.2).1 ▸ GreedyRaw.init (t := dual vs[0]) (.inl rfl) hd1 hd2 hd3

theorem computeBoundary_run {dual : V → Dual} {c c' : Cycle} {vs vs' : Array V}
    (hnd : (Cycle.walk c.len c c.start).Nodup)
    (hcov : ∀ x, c.get x ≠ x → x ∈ Cycle.walk c.len c c.start)
    (hR : ∀ v ∈ vs.toList, InRange c.ptrs.size (dual v))
    (hdist : ∀ h : 0 < vs.size, (dual vs[0]).a ≠ (dual vs[0]).b ∧
      (dual vs[0]).b ≠ (dual vs[0]).c ∧ (dual vs[0]).c ≠ (dual vs[0]).a)
    (hN : (edgesOf (vs.toList.map dual)).Nodup) (hNC : NoClosedPart (vs.toList.map dual))
    (h : Clip.computeBoundary dual c vs = some (c', vs')) :
    ∃ R', R'.Perm (vs.toList.map dual) ∧ Greedy R' c'.get := by
  obtain ⟨hperm, hG, _⟩ := computeBoundary_greedy hnd hcov hR hdist h
  have hp : ((vs'.toList.map dual).reverse).Perm (vs.toList.map dual) := (List.reverse_perm _).trans (hperm.map dual)
  exact ⟨_, hp, (greedy_of_raw hG ((edgesOf_perm hp).nodup_iff.2 hN) (hNC.mono hp.subset)).1⟩

/-- **T18.1–T18.3 for the executable model.**  A successful `computeBoundary` on the removed vertices `vs` ends with a
successor array whose proper edges are `bdry` of the removed duals; it is injective and a single cycle. -/
theorem computeBoundary_bdry {dual : V → Dual} {c c' : Cycle} {vs vs' : Array V}
    (hnd : (Cycle.walk c.len c c.start).Nodup)
    (hcov : ∀ x, c.get x ≠ x → x ∈ Cycle.walk c.len c c.start)
    (hR : ∀ v ∈ vs.toList, InRange c.ptrs.size (dual v))
    (hdist : ∀ h : 0 < vs.size, (dual vs[0]).a ≠ (dual vs[0]).b ∧
      (dual vs[0]).b ≠ (dual vs[0]).c ∧ (dual vs[0]).c ≠ (dual vs[0]).a)
    (hN : (edgesOf (vs.toList.map dual)).Nodup) (hNC : NoClosedPart (vs.toList.map dual))
    (h : Clip.computeBoundary dual c vs = some (c', vs')) :
    Inv c'.get (vs.toList.map dual) ∧ Conn c'.get := by
  obtain ⟨R', hp, hG⟩ := computeBoundary_run hnd hcov hR hdist hN hNC h
  have hN' := (edgesOf_perm hp).nodup_iff.2 hN
  have hI := greedy_inv hG hN'
  exact ⟨⟨fun x y => (hI.1 x y).trans (bdry_perm hp _), hI.2⟩, greedy_conn hG hN'⟩

/-- **T18.3 for the executable model.**  Two successful `computeBoundary` runs on the same removed set, stored in any two
orders and with any rotation of each triple, end with the same successor function. -/
theorem computeBoundary_canonical {dual : V → Dual} {c₁ c₁' c₂ c₂' : Cycle}
    {vs₁ vs₁' vs₂ vs₂' : Array V}
    (hnd₁ : (Cycle.walk c₁.len c₁ c₁.start).Nodup)
    (hcov₁ : ∀ x, c₁.get x ≠ x → x ∈ Cycle.walk c₁.len c₁ c₁.start)
    (hR₁ : ∀ v ∈ vs₁.toList, InRange c₁.ptrs.size (dual v))
    (hdist₁ : ∀ h : 0 < vs₁.size, (dual vs₁[0]).a ≠ (dual vs₁[0]).b ∧
      (dual vs₁[0]).b ≠ (dual vs₁[0]).c ∧ (dual vs₁[0]).c ≠ (dual vs₁[0]).a)
    (hN₁ : (edgesOf (vs₁.toList.map dual)).Nodup) (hNC₁ : NoClosedPart (vs₁.toList.map dual))
    (h₁ : Clip.computeBoundary dual c₁ vs₁ = some (c₁', vs₁'))
    (hnd₂ : (Cycle.walk c₂.len c₂ c₂.start).Nodup)
    (hcov₂ : ∀ x, c₂.get x ≠ x → x ∈ Cycle.walk c₂.len c₂ c₂.start)
    (hR₂ : ∀ v ∈ vs₂.toList, InRange c₂.ptrs.size (dual v))
    (hdist₂ : ∀ h : 0 < vs₂.size, (dual vs₂[0]).a ≠ (dual vs₂[0]).b ∧
      (dual vs₂[0]).b ≠ (dual vs₂[0]).c ∧ (dual vs₂[0]).c ≠ (dual vs₂[0]).a)
    (hN₂ : (edgesOf (vs₂.toList.map dual)).Nodup) (hNC₂ : NoClosedPart (vs₂.toList.map dual))
    (h₂ : Clip.computeBoundary dual c₂ vs₂ = some (c₂', vs₂'))
    (hrp : RotPerm (vs₁.toList.map dual) (vs₂.toList.map dual)) :
    c₁'.get = c₂'.get := by
  have i₁ := (computeBoundary_bdry hnd₁ hcov₁ hR₁ hdist₁ hN₁ hNC₁ h₁).1.1
  have i₂ := (computeBoundary_bdry hnd₂ hcov₂ hR₂ hdist₂ hN₂ hNC₂ h₂).1.1
  exact succ_ext (i₁.ext_edges i₂ (edgesOf_rotPerm hrp))

theorem pairs_walk (n : Nat) (c : Cycle) (s : Nat) :
    Clip.pairs (Cycle.walk (n + 1) c s) = (Cycle.walk n c s).map (fun x => (x, c.get x)) := by
  induction n generalizing s with
  | zero => simp [Cycle.walk, Clip.pairs]
  | succ n ih =>
    have := ih (c.get s)
    simp only [Cycle.walk, Clip.pairs, List.map_cons] at this ⊢
    rw [this]

/-- **New vertices = boundary edges.**  The `(cur, next)` pairs that `clip_by_plane` reads from `iter().take(len + 1)` are
the boundary edges of `R`, each once. -/
theorem pairs_closedWalk_perm {c : Cycle} {R : List Dual}
    (hnd : (Cycle.walk c.len c c.start).Nodup)
    (hcov : ∀ x, c.get x ≠ x ↔ x ∈ Cycle.walk c.len c c.start)
    (hI : CInv c.get R) (hN : (edgesOf R).Nodup) :
    (Clip.pairs c.closedWalk).Perm (bdry R) := by
  unfold Cycle.closedWalk
  rw [pairs_walk]
  rw [List.perm_ext_iff_of_nodup (hnd.map (fun a b h => congrArg Prod.fst h)) (nodup_bdry hN)]
  rintro ⟨x, y⟩
  rw [← hI x y, List.mem_map]
  constructor
  · rintro ⟨z, hz, he⟩
    have h1 : z = x := congrArg Prod.fst he
    have h2 : c.get z = y := congrArg Prod.snd he
    subst h1
    exact ⟨h2, fun e => (hcov z).2 hz (h2.trans e.symm)⟩
  · rintro ⟨rfl, hne⟩
    exact ⟨x, (hcov x).1 (fun e => hne e.symm), rfl⟩

end Model

/-- removing the vertices `(2,5,0)` and `(5,3,0)` of the cube: `compute_boundary` finds `2 → 5 → 3 → 0 → 2`, the `bdry` of the pair -/
example :
    (Clip.computeBoundary id (Cycle.new 7) #[(⟨2, 5, 0⟩ : Dual), ⟨5, 3, 0⟩]).map
      (fun r => (r.1.closedWalk, r.1.len)) = some ([2, 5, 3, 0, 2], 4) := by decide +kernel

/-- the closing case happens: with all four vertices of a tetrahedron removed, `compute_boundary` succeeds and leaves a
2-cycle, while the boundary is empty -/
example :
    (Clip.computeBoundary id (Cycle.new 5)
        #[(⟨0, 1, 2⟩ : Dual), ⟨0, 3, 1⟩, ⟨1, 3, 2⟩, ⟨0, 2, 3⟩]).map
      (fun r => (r.1.closedWalk, r.1.len)) = some ([0, 3, 0], 2)
    ∧ Closed [⟨0, 1, 2⟩, ⟨0, 3, 1⟩, ⟨1, 3, 2⟩, ⟨0, 2, 3⟩]
    ∧ bdry [⟨0, 1, 2⟩, ⟨0, 3, 1⟩, ⟨1, 3, 2⟩, ⟨0, 2, 3⟩] = [] := by decide +kernel


end MVoro.CycleBoundary

#print axioms MVoro.CycleBoundary.tryExtend_refines
#print axioms MVoro.CycleBoundary.init_get
#print axioms MVoro.CycleBoundary.computeBoundary_greedy
#print axioms MVoro.CycleBoundary.computeBoundary_bdry
#print axioms MVoro.CycleBoundary.computeBoundary_canonical
#print axioms MVoro.CycleBoundary.pairs_closedWalk_perm
