/-
T18.1, the bookkeeping half: `SimpleCycle` keeps `start` and `len` next to the successor array, and `clip_by_plane` reads the
boundary as `iter().take(len + 1)`.  `CycleBoundary` proves that the successor array holds exactly the boundary edges; this
file proves that `start`/`len` describe that cycle (`WInv`): walking `len` steps from `start` visits every entry on the cycle
exactly once (`walk_spec`, an instance of `FinOrbit.orbit_spec`), `init` establishes `WInv` and every successful `try_extend`
keeps it.  Hence the `(cur, next)` pairs the code turns into new vertices are the boundary edges, each once.
-/
import MVoro.Proofs.CycleModel
import MVoro.Proofs.FinOrbit

namespace MVoro.CycleWalk
open MVoro MVoro.CycleBoundary Function

/-- what `start` and `len` of `SimpleCycle` mean for the successor function: one cycle through `start` with `len` points
(`card` through a `Finset`, since the support of `f` is not a computable list) -/
structure WInv (f : Nat → Nat) (start len : Nat) : Prop where
  inj : Injective f
  conn : Conn f
  onc : f start ≠ start
  card : ∃ S : Finset Nat, (∀ x, x ∈ S ↔ f x ≠ x) ∧ S.card = len

/-- the walk the iterator performs: `start, f start, f (f start), …` (`n` entries) -/
def orbit (f : Nat → Nat) (start n : Nat) : List Nat := (List.range n).map fun k => f^[k] start

theorem walk_eq_orbit (n : Nat) (c : Cycle) (s : Nat) : Cycle.walk n c s = orbit c.get s n := by
  induction n generalizing s with
  | zero => rfl
  | succ n ih =>
    simp only [Cycle.walk, orbit, List.range_succ_eq_map, List.map_cons, List.map_map, iterate_zero, id]
    rw [ih]
    simp [orbit, Function.comp_def, iterate_succ_apply]

/-- T18.1 (bookkeeping): `iter().take(len)` from `start` lists the entries on the stored cycle, each once -/
theorem walk_spec {f : Nat → Nat} {start len : Nat} (h : WInv f start len) :
    (orbit f start len).Nodup ∧ ∀ x, f x ≠ x ↔ x ∈ orbit f start len := by
  obtain ⟨hinj, hconn, honc, S, hS, rfl⟩ := h
  obtain ⟨h1, h2, _⟩ := FinOrbit.orbit_spec (f := f) (fun x hx => (hS _).2 fun e => (hS x).1 hx (hinj e))
    hinj.injOn ((hS start).2 honc) (fun y hy => hconn start y honc ((hS y).1 hy))
  exact ⟨h1, fun x => (hS x).symm.trans (h2 x).symm⟩

theorem winv_tri {a b c : Nat} (hab : a ≠ b) (hbc : b ≠ c) (hca : c ≠ a) : WInv (triSucc a b c) a 3 := by
  refine ⟨(init_inv (t := ⟨a, b, c⟩) hab hbc hca).2, conn_tri hab hbc hca, (triSucc_ne_iff hca).2 (.inl rfl),
    {a, b, c}, fun x => ?_, ?_⟩
  · rw [triSucc_ne_iff hca, Finset.mem_insert, Finset.mem_insert, Finset.mem_singleton]
  · exact Finset.card_eq_three.2 ⟨a, b, c, hab, hca.symm, hbc, rfl⟩

theorem winv_ins {f : Nat → Nat} {start len ti tj tk : Nat} (h : WInv f start len) (hc : Cond1 f ti tj tk) :
    WInv (ins f ti tj tk) start (len + 1) := by
  obtain ⟨hinj, hconn, honc, S, hS, hcard⟩ := h
  refine ⟨inj_ins hinj hc, conn_ins hconn hc, (ins_ne_iff hc).2 (.inr honc), insert ti S, fun x => ?_, ?_⟩
  · rw [Finset.mem_insert, hS, ins_ne_iff hc]
  · rw [Finset.card_insert_of_notMem (mt (hS ti).1 (not_not.2 hc.1)), hcard]

theorem winv_del {f : Nat → Nat} {start len ti tj tk : Nat} (h : WInv f start len) (hc : Cond2 f ti tj tk) (hik : ti ≠ tk) :
    WInv (del f ti tj tk) (if start = tj then ti else start) (len - 1) := by
  obtain ⟨hinj, hconn, honc, S, hS, hcard⟩ := h
  refine ⟨inj_del hinj hc, conn_del hinj hconn hc, (del_ne_iff hc hik).2 ?_, S.erase tj, fun x => ?_, ?_⟩
  · split
    · exact ⟨hc.ne_ji.symm, hc.1⟩
    · next hne => exact ⟨hne, honc⟩
  · rw [Finset.mem_erase, hS, del_ne_iff hc hik]
  · rw [Finset.card_erase_of_mem ((hS tj).2 hc.2.1), hcard]

/-- the representation invariant of `SimpleCycle` once a cycle is stored -/
def CW (c : Cycle) : Prop := WInv c.get c.start c.len

theorem tryRot_cw {c c' : Cycle} {ti tj tk : Nat} (hi : ti < c.ptrs.size) (hj : tj < c.ptrs.size) (hk : tk < c.ptrs.size)
    (hik : ti ≠ tk) (hc : CW c) (h : c.tryRot ti tj tk = some c') : CW c' := by
  unfold CW
  obtain ⟨_, ⟨hc1, hg, hs, hl⟩ | ⟨hc2, hg, hs, hl⟩⟩ := tryRot_eq_some hi hj hk h
  · rw [hg, hs, hl]
    exact winv_ins hc hc1
  · rw [hg, hs, hl]
    exact winv_del hc hc2 hik

theorem tryExtend_cw {c c' : Cycle} {a b d : Nat} (ha : a < c.ptrs.size) (hb : b < c.ptrs.size) (hd : d < c.ptrs.size)
    (hab : a ≠ b) (hbd : b ≠ d) (hda : d ≠ a) (hc : CW c) (h : c.tryExtend a b d = some c') : CW c' := by
  obtain ⟨t', rfl | rfl | rfl, h'⟩ := tryExtend_eq_some h
  · exact tryRot_cw ha hb hd hda.symm hc h'
  · exact tryRot_cw hb hd ha hab.symm hc h'
  · exact tryRot_cw hd ha hb hbd.symm hc h'

theorem init_cw {c : Cycle} {a b d : Nat} (hnd : (Cycle.walk c.len c c.start).Nodup)
    (hcov : ∀ x, c.get x ≠ x → x ∈ Cycle.walk c.len c c.start)
    (ha : a < c.ptrs.size) (hb : b < c.ptrs.size) (hd : d < c.ptrs.size)
    (hab : a ≠ b) (hbd : b ≠ d) (hda : d ≠ a) : CW (c.init a b d) := by
  obtain ⟨g1, g2, g3, _⟩ := init_get hnd hcov ha hb hd
  unfold CW
  rw [g1, g2, g3]
  exact winv_tri hab hbd hda

/-- a cycle state satisfying `CW` satisfies the reset invariant `init` needs -/
theorem cw_reset {c : Cycle} (h : CW c) :
    (Cycle.walk c.len c c.start).Nodup ∧ ∀ x, c.get x ≠ x ↔ x ∈ Cycle.walk c.len c c.start := by
  rw [walk_eq_orbit]
  exact walk_spec h

/-- `EulerReach.Distinct3` is the same predicate -/
def Distinct (d : Dual) : Prop := d.a ≠ d.b ∧ d.b ≠ d.c ∧ d.c ≠ d.a

section Model
variable {V : Type}

/-- T18.1 (bookkeeping) for `compute_boundary`: on success `start` and `len` describe the cycle in the successor array -/
theorem computeBoundary_cw {dual : V → Dual} {c c' : Cycle} {vs vs' : Array V}
    (hnd : (Cycle.walk c.len c c.start).Nodup)
    (hcov : ∀ x, c.get x ≠ x → x ∈ Cycle.walk c.len c c.start)
    (hR : ∀ v ∈ vs.toList, InRange c.ptrs.size (dual v) ∧ Distinct (dual v))
    (h : Clip.computeBoundary dual c vs = some (c', vs')) : CW c' := by
  refine (computeBoundary_inv (P := fun _ c₁ => CW c₁) hnd hcov (fun _ hv => hv.1) ?_ hR (fun hpos => ?_) h).2.2
  · rintro _ c₁ v c₂ ⟨_, hdi⟩ hv hc hext
    exact tryExtend_cw hv.1 hv.2.1 hv.2.2 hdi.1 hdi.2.1 hdi.2.2 hc hext
  · obtain ⟨hr, hdi⟩ := hR vs[0] (by simp)
    exact init_cw hnd hcov hr.1 hr.2.1 hr.2.2 hdi.1 hdi.2.1 hdi.2.2

/-- **T18.3, end to end for the executable model**: after a successful `compute_boundary` on the removed vertices, the
`(cur, next)` pairs that `clip_by_plane` reads from `iter().take(len + 1)` are the boundary edges of the removed region, each once -/
theorem computeBoundary_pairs {dual : V → Dual} {c c' : Cycle} {vs vs' : Array V}
    (hnd : (Cycle.walk c.len c c.start).Nodup)
    (hcov : ∀ x, c.get x ≠ x → x ∈ Cycle.walk c.len c c.start)
    (hR : ∀ v ∈ vs.toList, InRange c.ptrs.size (dual v) ∧ Distinct (dual v))
    (hN : (edgesOf (vs.toList.map dual)).Nodup) (hNC : NoClosedPart (vs.toList.map dual))
    (h : Clip.computeBoundary dual c vs = some (c', vs')) :
    (Clip.pairs c'.closedWalk).Perm (bdry (vs.toList.map dual)) := by
  have hcw := computeBoundary_cw hnd hcov hR h
  obtain ⟨w1, w2⟩ := cw_reset hcw
  obtain ⟨hI, _⟩ := computeBoundary_bdry hnd hcov (fun v hv => (hR v hv).1) (fun _ => (hR vs[0] (by simp)).2) hN hNC h
  exact pairs_closedWalk_perm w1 w2 hI.1 hN

/-- the returned cycle state satisfies the reset invariant `hnd`, `hcov` again -/
theorem computeBoundary_reset {dual : V → Dual} {c c' : Cycle} {vs vs' : Array V}
    (hnd : (Cycle.walk c.len c c.start).Nodup)
    (hcov : ∀ x, c.get x ≠ x → x ∈ Cycle.walk c.len c c.start)
    (hR : ∀ v ∈ vs.toList, InRange c.ptrs.size (dual v) ∧ Distinct (dual v))
    (h : Clip.computeBoundary dual c vs = some (c', vs')) :
    (Cycle.walk c'.len c' c'.start).Nodup ∧ ∀ x, c'.get x ≠ x → x ∈ Cycle.walk c'.len c' c'.start := by
  obtain ⟨w1, w2⟩ := cw_reset (computeBoundary_cw hnd hcov hR h)
  exact ⟨w1, fun x hx => (w2 x).1 hx⟩

end Model

#print axioms MVoro.CycleWalk.computeBoundary_pairs
end MVoro.CycleWalk
