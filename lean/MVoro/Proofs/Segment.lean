/-
An affine function along a segment, in terms of its two end values only: where it vanishes, and that a convex combination of
non-negative values is non-negative.  `ClipFeasible` (planes over ℝ) and `StarInvariant` (bisectors over an ordered field)
both place the vertex a clip creates with these two facts.
-/
import Mathlib.Algebra.Order.Field.Basic

namespace MVoro.Segment
variable {α : Type} [Field α] [LinearOrder α] [IsStrictOrderedRing α]

theorem crossing_param {f0 f1 : α} (h0 : 0 ≤ f0) (h1 : f1 < 0) :
    0 ≤ f0 / (f0 - f1) ∧ f0 / (f0 - f1) < 1 ∧ (1 - f0 / (f0 - f1)) * f0 + f0 / (f0 - f1) * f1 = 0 := by
  have hpos : 0 < f0 - f1 := sub_pos.mpr (h1.trans_le h0)
  refine ⟨div_nonneg h0 hpos.le, (div_lt_one hpos).mpr (lt_sub_iff_add_lt.mpr (add_lt_of_neg_right f0 h1)), ?_⟩
  rw [sub_mul, one_mul, sub_add, ← mul_sub, div_mul_cancel₀ _ hpos.ne', sub_self]

theorem convex_nonneg {t a b : α} (t0 : 0 ≤ t) (t1 : t ≤ 1) (ha : 0 ≤ a) (hb : 0 ≤ b) : 0 ≤ (1 - t) * a + t * b :=
  add_nonneg (mul_nonneg (sub_nonneg.mpr t1) ha) (mul_nonneg t0 hb)

end MVoro.Segment
