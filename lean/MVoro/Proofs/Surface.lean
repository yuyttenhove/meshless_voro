/-
Signed decomposition of a closed triangulated surface into apex tetrahedra (C04: T04.2; C14: T14.1, T14.2):
closure (Σ vector areas = 0), divergence identity, closedness from paired directed edges, apex independence of volume /
first / second moments through cone identities, and the fan-splitting identities within a face.
-/
import MVoro.Proofs.Vec3
import Mathlib.Data.Real.Basic
import Mathlib.Tactic.Ring
import Mathlib.Tactic.Linarith
import Mathlib.Tactic.LinearCombination
import Mathlib.Tactic.NormNum
import Mathlib.Algebra.BigOperators.Group.List.Basic
import Mathlib.Algebra.BigOperators.Ring.List
import Mathlib.Data.List.Nodup
import Mathlib.Data.List.Perm.Basic
import Mathlib.Data.List.Rotate

namespace MVoro.Surface

open MVoro MVoro.GeomHelpers

/-! The same statements as `GeomHelpers.sub_x … dot_def`, as theorems of their own: inside this namespace the short names
resolve to these, `add_x/y/z` to the ones of `GeomHelpers`. -/

@[simp] theorem sub_x (a b : V3 ℝ) : (a - b).x = a.x - b.x := rfl
@[simp] theorem sub_y (a b : V3 ℝ) : (a - b).y = a.y - b.y := rfl
@[simp] theorem sub_z (a b : V3 ℝ) : (a - b).z = a.z - b.z := rfl
@[simp] theorem smul_x (k : ℝ) (a : V3 ℝ) : (V3.smul k a).x = k * a.x := rfl
@[simp] theorem smul_y (k : ℝ) (a : V3 ℝ) : (V3.smul k a).y = k * a.y := rfl
@[simp] theorem smul_z (k : ℝ) (a : V3 ℝ) : (V3.smul k a).z = k * a.z := rfl
@[simp] theorem cross_x (a b : V3 ℝ) : (V3.cross a b).x = a.y * b.z - b.y * a.z := rfl
@[simp] theorem cross_y (a b : V3 ℝ) : (V3.cross a b).y = a.z * b.x - b.z * a.x := rfl
@[simp] theorem cross_z (a b : V3 ℝ) : (V3.cross a b).z = a.x * b.y - b.x * a.y := rfl
theorem dot_def (a b : V3 ℝ) : V3.dot a b = a.x * b.x + a.y * b.y + a.z * b.z := rfl

/-- the zero vector (no `Zero (V3 ℝ)` instance is assumed) -/
def zero3 : V3 ℝ := ⟨0, 0, 0⟩

structure Tri where
  a : V3 ℝ
  b : V3 ℝ
  c : V3 ℝ

def edgeSum {β : Type} [AddCommMonoid β] (φ : V3 ℝ → V3 ℝ → β) (t : Tri) : β :=
  φ t.a t.b + φ t.b t.c + φ t.c t.a

/-- Closedness without combinatorics: every antisymmetric edge function sums to zero (each directed edge is cancelled by
its reverse); `closedSurf_of_paired` gives it from the edge pairing. -/
def ClosedSurf (T : List Tri) : Prop :=
  ∀ φ : V3 ℝ → V3 ℝ → ℝ, (∀ p q, φ p q = - φ q p) → (T.map (edgeSum φ)).sum = 0

noncomputable def vecArea (t : Tri) : V3 ℝ :=
  V3.smul (1/2) (V3.cross (t.b - t.a) (t.c - t.a))

/-- `= signed_volume_tet(a, b, c, g)` of the code: `det[b-a, c-a, g-a]/6` -/
noncomputable def tetVol (g : V3 ℝ) (t : Tri) : ℝ :=
  V3.dot (g - t.a) (V3.cross (t.b - t.a) (t.c - t.a)) / 6

noncomputable def triCentroid (t : Tri) : V3 ℝ := V3.smul (1/3) (t.a + t.b + t.c)

theorem sum_map_sub {ι : Type} (l : List ι) (f h : ι → ℝ) :
    (l.map (fun t => f t - h t)).sum = (l.map f).sum - (l.map h).sum := by
  induction l with
  | nil => simp
  | cons a l ih => simp only [List.map_cons, List.sum_cons, ih]; ring

/-- `V3 ℝ` carries no `AddMonoid`, so the statements write a sum of vectors as `foldr (· + ·) zero3`; dotted with `n` it is the
`List.sum` the closedness hypothesis speaks of -/
theorem dot_foldr {ι : Type} (n : V3 ℝ) (F : ι → V3 ℝ) (l : List ι) :
    V3.dot n ((l.map F).foldr (· + ·) zero3) = (l.map (fun t => V3.dot n (F t))).sum := by
  induction l with
  | nil => simp [zero3, dot_def]
  | cons a l ih => rw [List.map_cons, List.foldr_cons, V3.dot_add_right, ih, List.map_cons, List.sum_cons]

theorem foldr_eq_of_dot {ι : Type} (F G : ι → V3 ℝ) (l : List ι)
    (h : ∀ n, (l.map (fun t => V3.dot n (F t))).sum = (l.map (fun t => V3.dot n (G t))).sum) :
    (l.map F).foldr (· + ·) zero3 = (l.map G).foldr (· + ·) zero3 :=
  V3.ext_of_dot fun n => by rw [dot_foldr, dot_foldr, h n]

theorem sum_eq_zero_of_edge {T : List Tri} (h : ClosedSurf T) (f : Tri → ℝ)
    (φ : V3 ℝ → V3 ℝ → ℝ) (hφ : ∀ p q, φ p q = - φ q p) (hf : ∀ t, f t = edgeSum φ t) :
    (T.map f).sum = 0 := by
  have : f = edgeSum φ := funext hf
  rw [this]; exact h φ hφ

/-- the pattern of all apex-independence proofs: the difference of the two quantities is an antisymmetric edge sum -/
theorem sum_eq_of_cone {T : List Tri} (h : ClosedSurf T) {f f' : Tri → ℝ}
    (φ : V3 ℝ → V3 ℝ → ℝ) (hφ : ∀ p q, φ p q = - φ q p)
    (hf : ∀ t, f t - f' t = edgeSum φ t) :
    (T.map f).sum = (T.map f').sum := by
  have h0 := sum_eq_zero_of_edge h (fun t => f t - f' t) φ hφ hf
  rw [sum_map_sub] at h0
  linarith

theorem cross_edge_expand (a b c : V3 ℝ) :
    V3.cross (b - a) (c - a) = V3.cross a b + V3.cross b c + V3.cross c a := by
  apply V3.ext' <;> simp only [cross_x, cross_y, cross_z, sub_x, sub_y, sub_z, add_x, add_y, add_z]
    <;> ring

theorem closure_dot {T : List Tri} (h : ClosedSurf T) (n : V3 ℝ) :
    (T.map (fun t => V3.dot n (vecArea t))).sum = 0 := by
  refine sum_eq_zero_of_edge h _ (fun p q => (1/2) * V3.dot n (V3.cross p q)) ?_ ?_
  · intro p q; rw [V3.dot_cross_swap]; ring
  · intro t
    simp only [edgeSum, vecArea, cross_edge_expand, V3.dot_smul_right, V3.dot_add_right]
    ring

theorem closure {T : List Tri} (h : ClosedSurf T) :
    (T.map vecArea).foldr (· + ·) zero3 = zero3 := by
  refine V3.ext_of_dot fun n => ?_
  rw [dot_foldr, closure_dot h]
  simp [zero3, dot_def]

theorem divergence_tri (g : V3 ℝ) (t : Tri) :
    (1/3) * V3.dot (vecArea t) (triCentroid t - g) = - tetVol g t := by
  -- the normal is orthogonal to the edges `b - a`, `c - a`
  have hb := V3.dot_cross_self_left (t.b - t.a) (t.c - t.a)
  have hc := V3.dot_cross_self_right (t.b - t.a) (t.c - t.a)
  simp only [V3.dot_sub_left] at hb hc
  simp only [vecArea, triCentroid, tetVol, V3.dot_smul_left, V3.dot_smul_right, V3.dot_sub_right, V3.dot_add_right,
    V3.dot_sub_left, V3.dot_comm (V3.cross _ _)]
  linear_combination (1 / 18) * hb + (1 / 18) * hc

/-- The sign: `tetVol g t` is positive when the normal `(b-a)×(c-a)` points towards `g`, so an outward oriented surface
around `g` gives negative `tetVol`. -/
theorem divergence (T : List Tri) (g : V3 ℝ) :
    (1/3) * (T.map (fun t => V3.dot (vecArea t) (triCentroid t - g))).sum
      = - (T.map (tetVol g)).sum := by
  rw [← List.sum_map_mul_left, List.sum_neg, List.map_map]
  exact congrArg List.sum (List.map_congr_left fun t _ => divergence_tri g t)

def toTri (pos : Nat → V3 ℝ) (f : Nat × Nat × Nat) : Tri := ⟨pos f.1, pos f.2.1, pos f.2.2⟩

def edges (f : Nat × Nat × Nat) : List (Nat × Nat) := [(f.1, f.2.1), (f.2.1, f.2.2), (f.2.2, f.1)]

theorem sum_edges (pos : Nat → V3 ℝ) (φ : V3 ℝ → V3 ℝ → ℝ) (L : List (Nat × Nat × Nat)) :
    ((L.map (toTri pos)).map (edgeSum φ)).sum
      = ((L.flatMap edges).map (fun e => φ (pos e.1) (pos e.2))).sum := by
  induction L with
  | nil => simp
  | cons f L ih =>
    simp only [List.map_cons, List.sum_cons, List.flatMap_cons, List.map_append, List.sum_append, ih]
    simp only [edges, edgeSum, toTri, List.map_cons, List.map_nil, List.sum_cons, List.sum_nil]
    ring

theorem closedSurf_of_perm (pos : Nat → V3 ℝ) (L : List (Nat × Nat × Nat))
    (hp : (L.flatMap edges).Perm ((L.flatMap edges).map Prod.swap)) :
    ClosedSurf (L.map (toTri pos)) := by
  intro φ hφ
  rw [sum_edges]
  generalize L.flatMap edges = E at hp
  have h1 := (hp.map (fun e : Nat × Nat => φ (pos e.1) (pos e.2))).sum_eq
  rw [List.map_map] at h1
  have h2 : ((fun e : Nat × Nat => φ (pos e.1) (pos e.2)) ∘ Prod.swap)
      = fun e => (-1) * φ (pos e.1) (pos e.2) := funext fun e => (hφ _ _).trans (neg_one_mul _).symm
  rw [h2, List.sum_map_mul_left] at h1
  linarith

/-- The edge pairing (the invariant of C18) makes the surface closed.  "No loop edge" is not needed: an antisymmetric
function vanishes on loops. -/
theorem closedSurf_of_paired (pos : Nat → V3 ℝ) (L : List (Nat × Nat × Nat))
    (hnd : (L.flatMap edges).Nodup)
    (hsw : ∀ e ∈ L.flatMap edges, e.swap ∈ L.flatMap edges) :
    ClosedSurf (L.map (toTri pos)) := by
  apply closedSurf_of_perm
  rw [List.perm_ext_iff_of_nodup hnd (hnd.map Prod.swap_injective)]
  refine fun e => ⟨fun he => List.mem_map.mpr ⟨e.swap, hsw e he, Prod.swap_swap e⟩, fun he => ?_⟩
  obtain ⟨e', he', rfl⟩ := List.mem_map.mp he
  exact hsw e' he'

/-- the four outward faces of the tetrahedron with labels 0..3 -/
def tetFaces : List (Nat × Nat × Nat) := [(0,2,1), (0,1,3), (1,2,3), (0,3,2)]

/-- non-vacuity of the two hypotheses of `closedSurf_of_paired`; that there is no loop edge is extra -/
theorem tetFaces_paired : (tetFaces.flatMap edges).Nodup ∧
    (∀ e ∈ tetFaces.flatMap edges, e.swap ∈ tetFaces.flatMap edges) ∧
    (∀ e ∈ tetFaces.flatMap edges, e.1 ≠ e.2) := by decide

example : (tetFaces.flatMap edges).Nodup ∧
    (∀ e ∈ tetFaces.flatMap edges, e.swap ∈ tetFaces.flatMap edges) ∧
    (∀ e ∈ tetFaces.flatMap edges, e.1 ≠ e.2) := tetFaces_paired

theorem tetFaces_closed (pos : Nat → V3 ℝ) : ClosedSurf (tetFaces.map (toTri pos)) :=
  closedSurf_of_paired pos tetFaces tetFaces_paired.1 tetFaces_paired.2.1

def unitPos : Nat → V3 ℝ
  | 0 => ⟨0, 0, 0⟩
  | 1 => ⟨1, 0, 0⟩
  | 2 => ⟨0, 1, 0⟩
  | _ => ⟨0, 0, 1⟩

def unitTet : List Tri := tetFaces.map (toTri unitPos)

example : ClosedSurf unitTet := tetFaces_closed unitPos

example : unitTet.map vecArea =
    [⟨0, 0, -1/2⟩, ⟨0, -1/2, 0⟩, ⟨1/2, 1/2, 1/2⟩, ⟨-1/2, 0, 0⟩] := by
  simp only [unitTet, tetFaces, toTri, unitPos, vecArea, List.map_cons, List.map_nil, V3.smul, V3.cross, sub_x, sub_y, sub_z]
  norm_num

/-- the sign convention on the unit tetrahedron (volume `1/6`): with outward-oriented faces the apex-tet sum is `-volume` -/
theorem unitTet_tetVol (g : V3 ℝ) : (unitTet.map (tetVol g)).sum = -(1/6) := by
  simp only [unitTet, tetFaces, toTri, unitPos, tetVol, List.map_cons, List.map_nil, List.sum_cons,
    List.sum_nil, dot_def, cross_x, cross_y, cross_z, sub_x, sub_y, sub_z]
  ring

example (g : V3 ℝ) : (unitTet.map (tetVol g)).sum = -(1/6) := unitTet_tetVol g

/-- and the divergence sum is `+volume` -/
example (g : V3 ℝ) :
    (1/3) * (unitTet.map (fun t => V3.dot (vecArea t) (triCentroid t - g))).sum = 1/6 := by
  rw [divergence, unitTet_tetVol, neg_neg]

noncomputable def vol4 (v0 v1 v2 v3 : V3 ℝ) : ℝ :=
  V3.dot (v3 - v0) (V3.cross (v1 - v0) (v2 - v0)) / 6

theorem tetVol_eq_vol4 (g : V3 ℝ) (t : Tri) : tetVol g t = vol4 t.a t.b t.c g := rfl

noncomputable def m1 (g : V3 ℝ) (t : Tri) : V3 ℝ :=
  V3.smul (tetVol g t / 4) (g + t.a + t.b + t.c)

noncomputable def m2 (g : V3 ℝ) (t : Tri) (u w : V3 ℝ) : ℝ :=
  tetVol g t / 20 *
    (V3.dot u g * V3.dot w g + V3.dot u t.a * V3.dot w t.a + V3.dot u t.b * V3.dot w t.b
      + V3.dot u t.c * V3.dot w t.c
      + V3.dot u (g + t.a + t.b + t.c) * V3.dot w (g + t.a + t.b + t.c))

theorem dot_m1 (u g : V3 ℝ) (t : Tri) : V3.dot u (m1 g t)
    = tetVol g t / 4 * (V3.dot u g + V3.dot u t.a + V3.dot u t.b + V3.dot u t.c) := by
  simp only [m1, V3.dot_smul_right, V3.dot_add_right]

theorem vol4_swap (v0 v1 p q : V3 ℝ) : vol4 v0 v1 p q = - vol4 v0 v1 q p := by
  rw [vol4, vol4, ← V3.det3cols_eq_dot, ← V3.det3cols_eq_dot, V3.det3cols_swap23, neg_div]

theorem vol4_cone (g g' a b c : V3 ℝ) :
    vol4 a b c g - vol4 a b c g' = vol4 g' g a b + vol4 g' g b c + vol4 g' g c a := by
  -- both sides are `(g - g') · (a × b + b × c + c × a) / 6`
  simp only [vol4, ← V3.dot_cross_cyc (g - g')]
  simp only [cross_edge_expand, V3.dot_add_right, V3.dot_sub_left, V3.dot_cross_swap g', V3.dot_cross_self_left,
    V3.dot_cross_self_right]
  ring

theorem vol4_rotate (a b c o : V3 ℝ) : vol4 a b c o = - vol4 o a b c := by
  simp only [vol4, dot_def, cross_x, cross_y, cross_z, sub_x, sub_y, sub_z]; ring

/-- the affine dependency of five points, weighted by the signed volumes of the opposite tetrahedra, under a linear functional -/
theorem vol4_cone_dot (u g g' a b c : V3 ℝ) :
    vol4 a b c g * V3.dot u g' - vol4 a b c g' * V3.dot u g
      = vol4 g' g a b * V3.dot u c + vol4 g' g b c * V3.dot u a + vol4 g' g c a * V3.dot u b := by
  -- Cramer's rule for `u` in the basis `a - g'`, `b - g'`, `c - g'`, dotted with `g - g'`; `vol4_cone` moves the origin to `g'`
  have h := congrArg (V3.dot (g - g')) (V3.cramer (a - g') (b - g') (c - g') u)
  simp only [V3.dot_smul_right, V3.dot_add_right, V3.dot_cross_cyc (g - g'), V3.det3cols_eq_dot, V3.dot_comm _ u,
    V3.dot_sub_right u] at h
  have hc := vol4_cone g g' a b c
  rw [vol4_rotate a b c g'] at hc ⊢
  simp only [vol4] at hc ⊢
  linear_combination (V3.dot u g') * hc + (1 / 6) * h

theorem tetVol_cone (g g' : V3 ℝ) (t : Tri) :
    tetVol g t - tetVol g' t = edgeSum (fun p q => vol4 g' g p q) t := by
  simp only [tetVol_eq_vol4, edgeSum]; exact vol4_cone g g' t.a t.b t.c

/-- the edge function is the moment of the tetrahedron `g' g p q`; each tetrahedron contributes its volume times
`u·(sum of all five points) - u·(the missing point)`, so the identity is `vol4_cone` and `vol4_cone_dot` combined -/
theorem m1_cone (u g g' : V3 ℝ) (t : Tri) :
    V3.dot u (m1 g t) - V3.dot u (m1 g' t)
      = edgeSum (fun p q => V3.dot u (m1 q ⟨g', g, p⟩)) t := by
  simp only [dot_m1, edgeSum, tetVol_eq_vol4]
  linear_combination
    ((V3.dot u t.a + V3.dot u t.b + V3.dot u t.c + V3.dot u g + V3.dot u g') / 4) * vol4_cone g g' t.a t.b t.c
    - (1 / 4) * vol4_cone_dot u g g' t.a t.b t.c

theorem m2_cone (u w g g' : V3 ℝ) (t : Tri) :
    m2 g t u w - m2 g' t u w = edgeSum (fun p q => m2 q ⟨g', g, p⟩ u w) t := by
  simp only [m2, edgeSum, tetVol_eq_vol4, V3.dot_add_right]
  -- as in `m1_cone`: the part of the bracket that is symmetric in the five points goes with `vol4_cone`, the rest with
  -- `vol4_cone_dot` for `u` and for `w`
  linear_combination
    ((V3.dot u t.a * V3.dot w t.a + V3.dot u t.b * V3.dot w t.b + V3.dot u t.c * V3.dot w t.c
        + V3.dot u g * V3.dot w g + V3.dot u g' * V3.dot w g'
        + (V3.dot u t.a + V3.dot u t.b + V3.dot u t.c + V3.dot u g + V3.dot u g')
          * (V3.dot w t.a + V3.dot w t.b + V3.dot w t.c + V3.dot w g + V3.dot w g')) / 20)
      * vol4_cone g g' t.a t.b t.c
    - ((V3.dot u t.a + V3.dot u t.b + V3.dot u t.c + V3.dot u g + V3.dot u g') / 20)
      * vol4_cone_dot w g g' t.a t.b t.c
    - ((V3.dot w t.a + V3.dot w t.b + V3.dot w t.c + V3.dot w g + V3.dot w g') / 20)
      * vol4_cone_dot u g g' t.a t.b t.c

theorem volume_apex_indep {T : List Tri} (h : ClosedSurf T) (g g' : V3 ℝ) :
    (T.map (tetVol g)).sum = (T.map (tetVol g')).sum :=
  sum_eq_of_cone h (fun p q => vol4 g' g p q) (fun p q => vol4_swap g' g p q)
    (tetVol_cone g g')

/-- the statement of `volume_apex_indep` under a second name -/
theorem volume_apex_indep' {T : List Tri} (h : ClosedSurf T) (g g' : V3 ℝ) :
    (T.map (tetVol g)).sum = (T.map (tetVol g')).sum :=
  volume_apex_indep h g g'

theorem m1_apex_indep_dot {T : List Tri} (h : ClosedSurf T) (u g g' : V3 ℝ) :
    (T.map (fun t => V3.dot u (m1 g t))).sum = (T.map (fun t => V3.dot u (m1 g' t))).sum :=
  sum_eq_of_cone h (fun p q => V3.dot u (m1 q ⟨g', g, p⟩))
    (fun p q => by simp only [dot_m1, tetVol_eq_vol4, vol4_swap g' g p q]; ring) (m1_cone u g g')

theorem m1_apex_indep {T : List Tri} (h : ClosedSurf T) (g g' : V3 ℝ) :
    (T.map (m1 g)).foldr (· + ·) zero3 = (T.map (m1 g')).foldr (· + ·) zero3 :=
  foldr_eq_of_dot _ _ _ fun n => m1_apex_indep_dot h n g g'

theorem m2_apex_indep {T : List Tri} (h : ClosedSurf T) (u w g g' : V3 ℝ) :
    (T.map (fun t => m2 g t u w)).sum = (T.map (fun t => m2 g' t u w)).sum :=
  sum_eq_of_cone h (fun p q => m2 q ⟨g', g, p⟩ u w)
    (fun p q => by simp only [m2, tetVol_eq_vol4, vol4_swap g' g p q, V3.dot_add_right]; ring) (m2_cone u w g g')

noncomputable def area3 (P x y : V3 ℝ) : V3 ℝ := V3.smul (1/2) (V3.cross (x - P) (y - P))

noncomputable def areaN (n P x y : V3 ℝ) : ℝ := V3.dot n (area3 P x y)

/-- first moment of the triangle `(P,x,y)`: signed area times centroid -/
noncomputable def mom1N (n P x y : V3 ℝ) : V3 ℝ := V3.smul (areaN n P x y / 3) (P + x + y)

def lerp (a b : V3 ℝ) (s : ℝ) : V3 ℝ := a + V3.smul s (b - a)

theorem area3_lerp (P a b : V3 ℝ) (s : ℝ) :
    area3 P a (lerp a b s) = V3.smul s (area3 P a b) ∧ area3 P (lerp a b s) b = V3.smul (1 - s) (area3 P a b) := by
  constructor <;> apply V3.ext' <;>
    simp only [area3, lerp, smul_x, smul_y, smul_z, cross_x, cross_y, cross_z, sub_x, sub_y, sub_z,
      add_x, add_y, add_z] <;> ring

theorem split_edge_area (P a b : V3 ℝ) (s : ℝ) :
    area3 P a (lerp a b s) + area3 P (lerp a b s) b = area3 P a b := by
  rw [(area3_lerp P a b s).1, (area3_lerp P a b s).2]
  apply V3.ext' <;> simp only [smul_x, smul_y, smul_z, add_x, add_y, add_z] <;> ring

theorem split_edge_areaN (n P a b : V3 ℝ) (s : ℝ) :
    areaN n P a (lerp a b s) + areaN n P (lerp a b s) b = areaN n P a b := by
  simp only [areaN, ← V3.dot_add_right, split_edge_area]

/-- the two parts weigh `s` and `1 - s`, and `s (P + a + E) + (1 - s) (P + E + b) = P + a + b` for `E = lerp a b s` -/
theorem split_edge_moment1 (n P a b : V3 ℝ) (s : ℝ) :
    mom1N n P a (lerp a b s) + mom1N n P (lerp a b s) b = mom1N n P a b := by
  simp only [mom1N, areaN, (area3_lerp P a b s).1, (area3_lerp P a b s).2, V3.dot_smul_right]
  apply V3.ext' <;> simp only [lerp, smul_x, smul_y, smul_z, sub_x, sub_y, sub_z, add_x, add_y, add_z] <;> ring

theorem sum_cyc_sub {α : Type} (f : α → ℝ) (l : List α) :
    ((l.zip (l.rotate 1)).map (fun e => f e.1 - f e.2)).sum = 0 := by
  have h1 : (l.zip (l.rotate 1)).map (fun e => f e.1) = l.map f :=
    List.map_map.symm.trans (congrArg (List.map f) (List.map_fst_zip (by simp)))
  have h2 : (l.zip (l.rotate 1)).map (fun e => f e.2) = (l.rotate 1).map f :=
    List.map_map.symm.trans (congrArg (List.map f) (List.map_snd_zip (by simp)))
  rw [sum_map_sub, h1, h2, ((l.rotate_perm 1).map f).sum_eq, sub_self]

/-- moving the fan origin to `P` changes the area of the triangle over the edge `(x, y)` by a difference of a function
of `x` and of `y` -/
theorem dot_area3 (n P x y : V3 ℝ) : V3.dot n (area3 P x y)
    = V3.dot n (V3.smul (1/2) (V3.cross x y)) + (1/2 * V3.dot n (V3.cross P x) - 1/2 * V3.dot n (V3.cross P y)) := by
  simp only [area3, cross_edge_expand, V3.dot_smul_right, V3.dot_add_right, V3.dot_cross_swap P y n]
  ring

theorem fan_origin_indep_dot (n P : V3 ℝ) (l : List (V3 ℝ)) :
    ((l.zip (l.rotate 1)).map (fun e => V3.dot n (area3 P e.1 e.2))).sum
      = ((l.zip (l.rotate 1)).map
          (fun e => V3.dot n (V3.smul (1/2) (V3.cross e.1 e.2)))).sum := by
  have h := sum_cyc_sub (fun v => 1/2 * V3.dot n (V3.cross P v)) l
  rw [sum_map_sub, sub_eq_zero] at h
  simp only [dot_area3]
  rw [List.sum_map_add, sum_map_sub, h, sub_self, add_zero]

theorem fan_origin_indep (P : V3 ℝ) (l : List (V3 ℝ)) :
    ((l.zip (l.rotate 1)).map (fun e => area3 P e.1 e.2)).foldr (· + ·) zero3
      = ((l.zip (l.rotate 1)).map
          (fun e => V3.smul (1/2) (V3.cross e.1 e.2))).foldr (· + ·) zero3 :=
  foldr_eq_of_dot _ _ _ fun n => fan_origin_indep_dot n P l

#print axioms closedSurf_of_paired
#print axioms closedSurf_of_perm
#print axioms closure
#print axioms volume_apex_indep
#print axioms divergence
#print axioms tetVol_cone
#print axioms m1_cone
#print axioms m2_cone
#print axioms m1_apex_indep
#print axioms m1_apex_indep_dot
#print axioms m2_apex_indep
#print axioms split_edge_area
#print axioms split_edge_moment1
#print axioms fan_origin_indep_dot
#print axioms fan_origin_indep

end MVoro.Surface
