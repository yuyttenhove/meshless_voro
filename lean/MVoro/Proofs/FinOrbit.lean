/-
One walk round a finite cycle.  A self-map `f` that maps a finite set `S` injectively into itself is a permutation of `S`; if
moreover every point of `S` is an iterate of `a ∈ S`, then `S` is the single orbit `a, f a, …, f^[|S|-1] a`, each point once, and
`f^[|S|] a = a`.  The two instances: `CycleWalk.walk_spec` (the boundary cycle of `SimpleCycle`) and `FaceCycle.face_cycle`
(the vertices round a face).
-/
import Mathlib.Dynamics.PeriodicPts.Defs
import Mathlib.Data.Finset.Card

namespace MVoro.FinOrbit
open Function

variable {α : Type*} [DecidableEq α] {f : α → α} {S : Finset α} {a : α}

theorem orbit_spec (hmaps : ∀ x ∈ S, f x ∈ S) (hinj : Set.InjOn f S) (ha : a ∈ S)
    (hreach : ∀ y ∈ S, ∃ k, f^[k] a = y) :
    ((List.range S.card).map fun k => f^[k] a).Nodup ∧
      (∀ y, y ∈ (List.range S.card).map (fun k => f^[k] a) ↔ y ∈ S) ∧ f^[S.card] a = a := by
  -- `f` is onto `S`, so `a` has a preimage in `S`, which is an iterate of `a`: `a` is periodic
  obtain ⟨z, hz, hza⟩ := Finset.surjOn_of_injOn_of_card_le f hmaps hinj le_rfl ha
  obtain ⟨k, rfl⟩ := hreach z hz
  have hper : a ∈ periodicPts f := mk_mem_periodicPts k.succ_pos ((iterate_succ_apply' f k a).trans hza)
  -- its orbit lists the iterates of `a`, each once; these are the points of `S`, so the minimal period is `|S|`
  have hnd := _root_.Cycle.nodup_coe_iff.1 (nodup_periodicOrbit (f := f) (x := a))
  have hmem : ∀ y, y ∈ (List.range (minimalPeriod f a)).map (fun k => f^[k] a) ↔ y ∈ S := fun y =>
    (mem_periodicOrbit_iff hper).trans ⟨fun ⟨k, hk⟩ => hk ▸ Set.MapsTo.iterate hmaps k ha, hreach y⟩
  have hcard : S.card = minimalPeriod f a := by
    rw [← Finset.ext fun y => List.mem_toFinset.trans (hmem y), List.toFinset_card_of_nodup hnd, List.length_map,
      List.length_range]
  rw [hcard]
  exact ⟨hnd, hmem, iterate_minimalPeriod⟩

end MVoro.FinOrbit
