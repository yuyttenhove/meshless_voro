/-
C20 (T20.1): `get_r_ring` (`Knn.ring`) lists exactly the cells at Chebyshev index distance `r`, each once (`mem_ring`,
`nodup_ring`).  `ring s cid r` for `r > 0` is a `filterMap` of `ringCell` over the cube of offset triples; everything follows from
`ringCell_eq_some`, which says which cell an offset triple leads to.
-/
import MVoro.Proofs.GridWF
import Mathlib.Data.List.ProdSigma
namespace MVoro.RingWF
open MVoro MVoro.Knn MVoro.KnnProofs MVoro.GridWF List

def ringOffsets (r : Nat) : List Int := (List.range (2 * r + 1)).map fun (t : Nat) => Int.ofNat t - (r : Int)

theorem mem_ringOffsets {r : Nat} {d : Int} : d ∈ ringOffsets r ↔ d.natAbs ≤ r := by
  simp only [ringOffsets, List.mem_map, List.mem_range, Int.ofNat_eq_natCast]
  constructor
  · rintro ⟨t, ht, rfl⟩; omega
  · intro h; exact ⟨(d + r).toNat, by omega, by omega⟩

theorem nodup_ringOffsets (r : Nat) : (ringOffsets r).Nodup := by
  unfold ringOffsets
  apply List.Nodup.map _ List.nodup_range
  intro a b h
  simp only [Int.ofNat_eq_natCast] at h
  omega

theorem mem_offsetCube {r : Nat} {t : Int × Int × Int} :
    t ∈ ringOffsets r ×ˢ (ringOffsets r ×ˢ ringOffsets r) ↔ max (max t.1.natAbs t.2.1.natAbs) t.2.2.natAbs ≤ r := by
  obtain ⟨d1, d2, d3⟩ := t
  simp only [List.mem_product, mem_ringOffsets, max_le_iff, and_assoc]

/-- the inner expression of `get_r_ring` for one offset triple -/
def ringCell (cx cy cz : Nat) (i j k : Int) (r : Nat) (t : Int × Int × Int) : Option Nat :=
  if max (max t.1.natAbs t.2.1.natAbs) t.2.2.natAbs < r then none
  else if i + t.1 < 0 || j + t.2.1 < 0 || k + t.2.2 < 0 || i + t.1 ≥ cx || j + t.2.1 ≥ cy || k + t.2.2 ≥ cz then none
  else some ((i + t.1).toNat * cy * cz + (j + t.2.1).toNat * cz + (k + t.2.2).toNat)

variable {cx cy cz : Nat}

theorem ringCell_eq_some {i j k : Int} {r : Nat} {t : Int × Int × Int} {c : Nat} :
    ringCell cx cy cz i j k r t = some c ↔
      r ≤ max (max t.1.natAbs t.2.1.natAbs) t.2.2.natAbs ∧ c < cx * cy * cz ∧
      t = ((c / (cy * cz) : Nat) - i, ((c % (cy * cz) / cz : Nat) : Int) - j, ((c % cz : Nat) : Int) - k) := by
  obtain ⟨d1, d2, d3⟩ := t
  constructor
  · intro h
    unfold ringCell at h
    split_ifs at h with h1 h2
    simp only [Bool.or_eq_true, decide_eq_true_eq, not_or, not_lt, ge_iff_le, not_le] at h2
    obtain ⟨⟨⟨⟨⟨a0, b0⟩, e0⟩, a1⟩, b1⟩, e1⟩ := h2
    -- the shifted indices are natural numbers `a, b, e` inside the grid, and `index_spec` gives them back as the index triple of `c`
    obtain ⟨a, ha⟩ := Int.eq_ofNat_of_zero_le a0
    obtain ⟨b, hb⟩ := Int.eq_ofNat_of_zero_le b0
    obtain ⟨e, he⟩ := Int.eq_ofNat_of_zero_le e0
    simp only [ha, hb, he, Int.toNat_natCast, Nat.cast_lt, Option.some.injEq] at h a1 b1 e1
    obtain ⟨hc, q1, q2, q3⟩ := index_spec a1 b1 e1
    rw [h] at hc q1 q2 q3
    rw [q1, q2, q3, ← ha, ← hb, ← he]
    exact ⟨not_lt.1 h1, hc, by simp⟩
  · rintro ⟨h1, hc, h⟩
    obtain ⟨a1, b1, e1⟩ := tri_lt hc
    simp only [Prod.mk.injEq] at h
    obtain ⟨rfl, rfl, rfl⟩ := h
    -- `i + (a - i) = a` is inside the grid on every axis, and the index triple of `c` encodes `c`
    have hin : ∀ {n m : Nat}, n < m → (decide ((n : Int) < 0) = false ∧ decide ((n : Int) ≥ m) = false) := fun h => by
      simp only [decide_eq_false_iff_not, not_lt, ge_iff_le, not_le, Nat.cast_lt, Nat.cast_nonneg, h, and_self]
    simp only [ringCell, if_neg (not_lt.2 h1), add_sub_cancel, hin a1, hin b1, hin e1, Bool.or_self, Bool.false_eq_true, if_false,
      Int.toNat_natCast, decode_enc]

theorem ring_eq (s : Space) (cid r : Nat) (hr : r ≠ 0) :
    ring s cid r = (ringOffsets r ×ˢ (ringOffsets r ×ˢ ringOffsets r)).filterMap
      (ringCell s.cdim.1 s.cdim.2.1 s.cdim.2.2 (cid / (s.cdim.2.1 * s.cdim.2.2) : Nat)
        ((cid % (s.cdim.2.1 * s.cdim.2.2)) / s.cdim.2.2 : Nat) (cid % s.cdim.2.2 : Nat) r) := by
  obtain ⟨anchor, width, ⟨cx, cy, cz⟩, cw, cells, pos⟩ := s
  have hr' : (r == 0) = false := by simpa using hr
  simp only [ring, hr', Bool.false_eq_true, if_false, SProd.sprod, List.product, List.filterMap_flatMap, List.filterMap_map, ringOffsets]
  rfl

def cheb (cy cz c cid : Nat) : Nat :=
  max (max (((c / (cy * cz) : Nat) : Int) - ((cid / (cy * cz) : Nat) : Int)).natAbs
           ((((c % (cy * cz)) / cz : Nat) : Int) - (((cid % (cy * cz)) / cz : Nat) : Int)).natAbs)
      (((c % cz : Nat) : Int) - ((cid % cz : Nat) : Int)).natAbs

theorem ring_zero (s : Space) (cid : Nat) : ring s cid 0 = [cid] := by
  obtain ⟨anchor, width, ⟨cx, cy, cz⟩, cw, cells, pos⟩ := s
  simp [ring]

theorem cheb_eq_zero {c cid : Nat} : cheb cy cz c cid = 0 ↔ c = cid := by
  constructor
  · intro h
    simp only [cheb, Nat.max_eq_zero_iff, Int.natAbs_eq_zero, sub_eq_zero, Nat.cast_inj] at h
    rw [← decode_enc cy cz c, ← decode_enc cy cz cid, h.1.1, h.1.2, h.2]
  · rintro rfl
    simp only [cheb, sub_self, Int.natAbs_zero, max_self]

theorem mem_ring (s : Space) (hs : s.cdim = (cx, cy, cz)) (hy : 0 < cy) (hz : 0 < cz) (cid r c : Nat) (hcid : cid < cx * cy * cz) :
    c ∈ ring s cid r ↔ c < cx * cy * cz ∧ cheb cy cz c cid = r := by
  by_cases hr : r = 0
  · subst hr
    rw [ring_zero, List.mem_singleton, cheb_eq_zero]
    exact ⟨fun h => ⟨h ▸ hcid, h⟩, fun h => h.2⟩
  · rw [ring_eq s cid r hr, hs]
    simp only [List.mem_filterMap, ringCell_eq_some, mem_offsetCube]
    constructor
    · rintro ⟨t, ht, hge, hc, rfl⟩
      exact ⟨hc, le_antisymm ht hge⟩
    · rintro ⟨hc, rfl⟩
      refine ⟨_, ?_, ?_, hc, rfl⟩ <;> exact le_rfl

theorem nodup_ring (s : Space) (hs : s.cdim = (cx, cy, cz)) (cid r : Nat) : (ring s cid r).Nodup := by
  by_cases hr : r = 0
  · subst hr; rw [ring_zero]; simp
  · -- by `ringCell_eq_some` the offset triple is a function of the cell it leads to
    rw [ring_eq s cid r hr, hs]
    apply List.Nodup.filterMap _ ((nodup_ringOffsets r).product ((nodup_ringOffsets r).product (nodup_ringOffsets r)))
    intro t t' c h h'
    rw [Option.mem_def, ringCell_eq_some] at h h'
    rw [h.2.2, h'.2.2]

theorem natAbs_sub_lt {a b n : Nat} (ha : a < n) (hb : b < n) : ((a : Int) - b).natAbs < n := by omega

theorem cheb_lt {c cid : Nat} (hc : c < cx * cy * cz) (hcid : cid < cx * cy * cz) : cheb cy cz c cid < cx + cy + cz := by
  obtain ⟨a, b, e⟩ := tri_lt hc
  obtain ⟨a', b', e'⟩ := tri_lt hcid
  exact max_lt (max_lt ((natAbs_sub_lt a a').trans_le (by omega)) ((natAbs_sub_lt b b').trans_le (by omega)))
    ((natAbs_sub_lt e e').trans_le (by omega))

/-- hypothesis `hend` of the ring loop, whose fuel in `knn` is `cx + cy + cz + 2` -/
theorem ring_empty (s : Space) (hs : s.cdim = (cx, cy, cz)) (hy : 0 < cy) (hz : 0 < cz) (cid r : Nat) (hcid : cid < cx * cy * cz)
    (hr : cx + cy + cz ≤ r) : ring s cid r = [] := by
  rw [List.eq_nil_iff_forall_not_mem]
  intro c hc
  obtain ⟨hcN, rfl⟩ := (mem_ring s hs hy hz cid r c hcid).1 hc
  exact absurd (cheb_lt hcN hcid) (not_lt.2 hr)

theorem rings_perm_cells (s : Space) (hs : s.cdim = (cx, cy, cz)) (hy : 0 < cy) (hz : 0 < cz) (cid : Nat) (hcid : cid < cx * cy * cz) :
    (List.range (cx + cy + cz)).flatMap (ring s cid) ~ List.range (cx * cy * cz) :=
  perm_flatMap_of_key (cheb cy cz · cid) List.nodup_range List.nodup_range (fun r _ => nodup_ring s hs cid r)
    (fun r _ c => by rw [mem_ring s hs hy hz cid r c hcid, List.mem_range])
    (fun c hc => List.mem_range.2 (cheb_lt (List.mem_range.1 hc) hcid))

#print axioms mem_ring
#print axioms ring_empty
end MVoro.RingWF
