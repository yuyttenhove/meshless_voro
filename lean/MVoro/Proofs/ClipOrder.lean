/-
C18, the statement itself: **clipping a cell yields the same set of vertices — as cyclically ordered plane triples — whatever the
storage order of the vertices and whatever the rotation of each triple.**

Two vertex arrays describe the same cell when every dual triple of one is a rotation of a dual triple of the other
(`SameUpToRot`), and the two runs take the same decisions when corresponding vertices are removed in both or in neither.
`clipDuals_sameUpToRot` is the statement for the abstract clip, `model_clip_order_independent` for the executable model
`Clip.clip` (through `ClipModel.clip_spec`): if both runs succeed, the two resulting vertex arrays again describe the same cell.
-/
import MVoro.Proofs.ClipModel

namespace MVoro.ClipOrder
open MVoro MVoro.CycleBoundary MVoro.CycleWalk MVoro.ClipModel

def SameUpToRot (T₁ T₂ : List Dual) : Prop :=
  (∀ d ∈ T₁, ∃ d' ∈ T₂, IsRot d' d) ∧ (∀ d' ∈ T₂, ∃ d ∈ T₁, IsRot d d')

theorem edgesOf_subset_of_isRot {T₁ T₂ R₁ R₂ : List Dual} (hR₁ : R₁ ⊆ T₁)
    (h12 : ∀ d ∈ T₁, ∃ d' ∈ T₂, IsRot d' d)
    (hrel : ∀ d ∈ T₁, ∀ d' ∈ T₂, IsRot d' d → (d ∈ R₁ → d' ∈ R₂)) :
    ∀ e, e ∈ edgesOf R₁ → e ∈ edgesOf R₂ := by
  intro e he
  obtain ⟨r, hr, hre⟩ := mem_edgesOf.mp he
  obtain ⟨r', hr'T, hrot⟩ := h12 r (hR₁ hr)
  exact mem_edgesOf.mpr ⟨r', hrel r (hR₁ hr) r' hr'T hrot hr, (mem_edges_isRot hrot).2 hre⟩

theorem clip_half {T₁ T₂ R₁ R₂ : List Dual} {p : Nat} (hR₁ : R₁ ⊆ T₁) (hR₂ : R₂ ⊆ T₂)
    (h12 : ∀ d ∈ T₁, ∃ d' ∈ T₂, IsRot d' d) (h21 : ∀ d' ∈ T₂, ∃ d ∈ T₁, IsRot d d')
    (hrel : ∀ d ∈ T₁, ∀ d' ∈ T₂, IsRot d' d → (d ∈ R₁ ↔ d' ∈ R₂)) :
    ∀ d ∈ clipDuals T₁ R₁ p, ∃ d' ∈ clipDuals T₂ R₂ p, IsRot d' d := by
  have hE : ∀ e, e ∈ edgesOf R₁ ↔ e ∈ edgesOf R₂ := fun e =>
    ⟨edgesOf_subset_of_isRot hR₁ h12 (fun d hd d' hd' hr => (hrel d hd d' hd' hr).1) e,
      edgesOf_subset_of_isRot hR₂ h21 (fun d' hd' d hd hr => (hrel d hd d' hd' hr.symm).2) e⟩
  intro d hd
  rcases mem_clip_iff.1 hd with ⟨hdT, hdR⟩ | ⟨e, he, rfl⟩
  · obtain ⟨d', hd'T, hrot⟩ := h12 d hdT
    exact ⟨d', mem_clip_kept hd'T fun h => hdR ((hrel d hdT d' hd'T hrot).2 h), hrot⟩
  · exact ⟨_, mem_clip_new ((bdry_congr hE e).1 he), .inl rfl⟩

/-- C18 for the abstract clip -/
theorem clipDuals_sameUpToRot {T₁ T₂ R₁ R₂ : List Dual} {p : Nat} (hR₁ : R₁ ⊆ T₁) (hR₂ : R₂ ⊆ T₂)
    (hT : SameUpToRot T₁ T₂)
    (hrel : ∀ d ∈ T₁, ∀ d' ∈ T₂, IsRot d' d → (d ∈ R₁ ↔ d' ∈ R₂)) :
    SameUpToRot (clipDuals T₁ R₁ p) (clipDuals T₂ R₂ p) :=
  ⟨clip_half hR₁ hR₂ hT.1 hT.2 hrel,
    clip_half hR₂ hR₁ hT.2 hT.1 fun d' hd' d hd hr => (hrel d hd d' hd' hr.symm).symm⟩

theorem sameUpToRot_perm {T₁ T₁' T₂ T₂' : List Dual} (h₁ : T₁.Perm T₁') (h₂ : T₂.Perm T₂')
    (h : SameUpToRot T₁ T₂) :
    SameUpToRot T₁' T₂' :=
  ⟨fun d hd =>
    have ⟨d', hd', hr⟩ := h.1 d (h₁.mem_iff.2 hd)
    ⟨d', h₂.mem_iff.1 hd', hr⟩,
   fun d' hd' =>
    have ⟨d, hd, hr⟩ := h.2 d' (h₂.mem_iff.2 hd')
    ⟨d, h₁.mem_iff.1 hd, hr⟩⟩

variable {V : Type}

/-- **C18 for the executable model** -/
theorem model_clip_order_independent {dual : V → Dual} {mk : Nat → Nat → Nat → V} {rem₁ rem₂ : V → Bool} {p : Nat}
    {cyc₁ cyc₁' cyc₂ cyc₂' : Cycle} {vs₁ out₁ vs₂ out₂ : Array V}
    (hmk : ∀ x y z, dual (mk x y z) = ⟨x, y, z⟩)
    (hnd₁ : (Cycle.walk cyc₁.grow.len cyc₁.grow cyc₁.grow.start).Nodup)
    (hcov₁ : ∀ x, cyc₁.grow.get x ≠ x → x ∈ Cycle.walk cyc₁.grow.len cyc₁.grow cyc₁.grow.start)
    (hR₁ : ∀ v ∈ vs₁.toList, InRange cyc₁.grow.ptrs.size (dual v) ∧ Distinct (dual v))
    (hT₁ : (edgesOf (vs₁.toList.map dual)).Nodup)
    (hNC₁ : ∀ R : List Dual, R.Perm ((vs₁.toList.filter fun v => rem₁ v).map dual) → NoClosedPart R)
    (h₁ : Clip.clip dual mk rem₁ p cyc₁ vs₁ = .clipped cyc₁' out₁)
    (hnd₂ : (Cycle.walk cyc₂.grow.len cyc₂.grow cyc₂.grow.start).Nodup)
    (hcov₂ : ∀ x, cyc₂.grow.get x ≠ x → x ∈ Cycle.walk cyc₂.grow.len cyc₂.grow cyc₂.grow.start)
    (hR₂ : ∀ v ∈ vs₂.toList, InRange cyc₂.grow.ptrs.size (dual v) ∧ Distinct (dual v))
    (hT₂ : (edgesOf (vs₂.toList.map dual)).Nodup)
    (hNC₂ : ∀ R : List Dual, R.Perm ((vs₂.toList.filter fun v => rem₂ v).map dual) → NoClosedPart R)
    (h₂ : Clip.clip dual mk rem₂ p cyc₂ vs₂ = .clipped cyc₂' out₂)
    (hsame : SameUpToRot (vs₁.toList.map dual) (vs₂.toList.map dual))
    (hrel : ∀ d ∈ vs₁.toList.map dual, ∀ d' ∈ vs₂.toList.map dual, IsRot d' d →
      (d ∈ (vs₁.toList.filter fun v => rem₁ v).map dual ↔ d' ∈ (vs₂.toList.filter fun v => rem₂ v).map dual)) :
    SameUpToRot (out₁.toList.map dual) (out₂.toList.map dual) := by
  have s₁ := clip_spec hmk hnd₁ hcov₁ hR₁ hT₁ hNC₁ h₁
  have s₂ := clip_spec hmk hnd₂ hcov₂ hR₂ hT₂ hNC₂ h₂
  exact sameUpToRot_perm s₁.symm s₂.symm
    (clipDuals_sameUpToRot map_subset_of_filter map_subset_of_filter hsame hrel)

#print axioms MVoro.ClipOrder.model_clip_order_independent
end MVoro.ClipOrder
