/-
T15 / T01.4 / T10.5 combined: a cell reachable from the start cell of `ConvexCell::init` by exact clips whose boundary
reconstruction succeeded (`Star.Step`) is geometrically good (`Star.Good`) and combinatorially good (`EulerReach.SGood`).
-/
import MVoro.Proofs.StarReach
import MVoro.Proofs.EulerReach

namespace MVoro.ReachAll
open MVoro MVoro.Star MVoro.CycleBoundary MVoro.Euler MVoro.EulerReach Relation

variable {α : Type} [Field α] [LinearOrder α] [IsStrictOrderedRing α]

omit [IsStrictOrderedRing α] in
theorem cstep_of_step {g : I3 α} {nbr : Nat → I3 α} {s s' : St α} (hs : Good g nbr s) (h : Step g nbr s s') : CStep s.T s'.T := by
  cases h with
  | clip p R succ loc' hfresh hR hRn hG hkeep hnew =>
    refine ⟨R, succ, p, fun t ht => ((hR t).1 ht).1, hRn, hG, ?_, rfl⟩
    intro d hd hdp
    obtain ⟨ia, ib, ic⟩ := hs.2.2.1 d hd
    rcases hdp with rfl | rfl | rfl
    exacts [hfresh ia, hfresh ib, hfresh ic]

theorem reachable_all (lo hi g : I3 α) (h0 : lo.c0 < g.c0 ∧ g.c0 < hi.c0) (h1 : lo.c1 < g.c1 ∧ g.c1 < hi.c1)
    (h2 : lo.c2 < g.c2 ∧ g.c2 < hi.c2) (nbr : Nat → I3 α) (hn : ∀ i, i < 6 → nbr i = mirrorNbr lo hi g i) (s : St α)
    (h : ReflTransGen (Step g nbr) (initSt lo hi) s) : Good g nbr s ∧ SGood s.T := by
  have good := reachable_from_init_good lo hi g h0 h1 h2 nbr hn
  refine ⟨good s h, ?_⟩
  induction h with
  | refl => exact box8_good
  | tail hreach hstep ih => exact cstep_good ih (cstep_of_step (good _ hreach) hstep)

#print axioms MVoro.ReachAll.reachable_all
end MVoro.ReachAll
