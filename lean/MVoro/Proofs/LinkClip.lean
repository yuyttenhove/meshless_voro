/-
C15 (T15.2/T15.3): **no plane is ever pinched** — link-connectedness (`Euler.LinkConn`: the triples at a plane form one
umbrella) is an invariant of clipping.  It is the hypothesis of `Euler.interior_gone`, `Euler.plane_survives_iff` and
`EulerClip.euler_preserved`.

The argument for one clip (`T` closed, `R ⊆ T` removed, the boundary of `R` a single injective cycle `succ`, `p` fresh):
* `link_new`: at the new plane `p` the new triples `(x, succ x, p)` are chained backwards along the cycle, so they form one
  umbrella because the cycle is one cycle (`Conn`);
* `link_old`, `j` off the cycle: no new triple at `j`, and a step around `j` from a removed triple to a kept one would cross a
  boundary edge at `j` (`path_inside`), so the paths between kept triples stay;
* `link_old`, `j` on the cycle: exactly one boundary edge leaves `j` and one enters it, so the removed triples at `j` form one
  arc of its umbrella; the kept arc runs from the triple `dOut` across the outgoing boundary edge to the triple `dIn` across the
  incoming one, and the two new triples `N1 = (pred j, j, p)`, `N2 = (j, succ j, p)` close it again.
-/
import MVoro.Proofs.Euler

namespace MVoro.LinkClip
open MVoro MVoro.CycleBoundary MVoro.Euler Relation

variable {T R : List Dual} {succ : Nat → Nat} {p : Nat}

theorem step_kept {j : Nat} {d d' : Dual} (h : StepAt T j d d') (hn' : d' ∉ R) : StepAt (clipDuals T R p) j d d' :=
  ⟨mem_clip_kept h.1 hn', h.2⟩

theorem edges_newTri (x y : Nat) : (newTri p (x, y)).edges = [(x, y), (y, p), (p, x)] := rfl

theorem link_new (hI : Inv succ R) (hC : Conn succ) (hp : ∀ d ∈ T, ¬ HasPlane d p) : LinkConn (clipDuals T R p) p := by
  have hnew : ∀ d ∈ clipDuals T R p, HasPlane d p → ∃ x, succ x ≠ x ∧ d = newTri p (x, succ x) := by
    intro d hd hdp
    rcases mem_clip_iff.mp hd with ⟨hdT, _⟩ | ⟨⟨x, y⟩, he, rfl⟩
    · exact absurd hdp (hp d hdT)
    · obtain ⟨rfl, hx⟩ := hI.1.eq_succ he
      exact ⟨x, hx, rfl⟩
  have hstep : ∀ x, succ x ≠ x →
      StepAt (clipDuals T R p) p (newTri p (succ x, succ (succ x))) (newTri p (x, succ x)) := fun x hx =>
    ⟨mem_clip_new (hI.1.succ_mem hx), succ x, by simp [edges_newTri], by simp [edges_newTri]⟩
  have hback : ∀ k x, succ x ≠ x →
      ReflTransGen (StepAt (clipDuals T R p) p) (newTri p (succ^[k] x, succ (succ^[k] x))) (newTri p (x, succ x)) := by
    intro k
    induction k with
    | zero => exact fun _ _ => .refl
    | succ k ih => exact fun x hx => (ih (succ x) (hI.2.ne hx)).tail (hstep x hx)
  intro d hd d' hd' hdp hdp'
  obtain ⟨a, ha, rfl⟩ := hnew d hd hdp
  obtain ⟨b, hb, rfl⟩ := hnew d' hd' hdp'
  obtain ⟨k, rfl⟩ := hC b a hb ha
  exact hback k b hb

theorem mem_bdry_of_kept (hT : (edgesOf T).Nodup) (hR : R ⊆ T) {r d : Dual} (hr : r ∈ R) (hd : d ∈ T) (hn : d ∉ R)
    {e : Nat × Nat} (he : e ∈ r.edges) (he' : e.swap ∈ d.edges) : e ∈ bdry R :=
  mem_bdry.mpr ⟨mem_edgesOf.mpr ⟨r, hr, he⟩, not_mem_edgesOf_of_not_mem hT hR hd hn he'⟩

/-- a path from `d₀` to a point of `K` that can enter `K` only at `d₀` may be taken inside `K` -/
theorem path_inside {α : Type} {r r' : α → α → Prop} {K : α → Prop} {d₀ e : α}
    (hstep : ∀ a b, K a → K b → r a b → r' a b) (hentry : ∀ a b, ¬ K a → K b → r a b → b = d₀)
    (h : ReflTransGen r d₀ e) (he : K e) : ReflTransGen r' d₀ e := by
  induction h with
  | refl => exact .refl
  | @tail a b _ hab ih =>
    by_cases ha : K a
    · exact (ih ha).tail (hstep a b ha he hab)
    · rw [hentry a b ha he hab]

theorem link_old (hT : Closed T) (hR : R ⊆ T) (hI : Inv succ R) (hlink : ∀ j, LinkConn T j)
    {j : Nat} (hjp : j ≠ p) : LinkConn (clipDuals T R p) j := by
  set T' := clipDuals T R p
  by_cases hsj : succ j = j
  · have hkept : ∀ d ∈ T', HasPlane d j → d ∈ T ∧ d ∉ R := by
      intro d hd hdj
      rcases mem_clip_iff.mp hd with h | ⟨e, he, rfl⟩
      · exact h
      · exact absurd hsj (on_cycle_of_new hI he hdj hjp)
    intro d hd d' hd' hdj hdj'
    obtain ⟨hdT, _⟩ := hkept d hd hdj
    obtain ⟨hdT', hdR'⟩ := hkept d' hd' hdj'
    exact path_inside (K := (· ∉ R)) (fun _ _ _ hb h => step_kept h hb)
      (fun a b ha hb ⟨hbT, x, hx1, hx2⟩ =>
        absurd hsj (hI.1.eq_succ (mem_bdry_of_kept hT.1 hR (not_not.mp ha) hbT hb hx1 hx2)).2)
      (hlink j d hdT d' hdT' hdj hdj') hdR'
  · have hjy : (j, succ j) ∈ bdry R := hI.1.succ_mem hsj
    obtain ⟨hout, hin, hbal⟩ := bdry_cycles_of_inv hI
    obtain ⟨w, hwj⟩ := (hbal j).1 ⟨_, hjy⟩
    obtain ⟨dOut, hdOutT, hdOutR, hdOutE⟩ := exists_kept_across hT hR hjy
    obtain ⟨dIn, hdInT, hdInR, hdInE⟩ := exists_kept_across hT hR hwj
    simp only [Prod.swap] at hdOutE hdInE
    set N1 := newTri p (w, j) with hN1
    set N2 := newTri p (j, succ j) with hN2
    have s1 : StepAt T' j dIn N1 := ⟨mem_clip_new hwj, w, hdInE, by simp [hN1, edges_newTri]⟩
    have s2 : StepAt T' j N1 N2 := ⟨mem_clip_new hjy, p, by simp [hN1, edges_newTri], by simp [hN2, edges_newTri]⟩
    have s3 : StepAt T' j N2 dOut := ⟨mem_clip_kept hdOutT hdOutR, succ j, by simp [hN2, edges_newTri], hdOutE⟩
    -- a path leaves `R` only into `dOut`
    have hA : ∀ e, ReflTransGen (StepAt T j) dOut e → e ∉ R → ReflTransGen (StepAt T' j) dOut e := fun e =>
      path_inside (K := (· ∉ R)) (fun _ _ _ hb h => step_kept h hb) fun a b ha hb ⟨hbT, x, hx1, hx2⟩ => by
        obtain rfl := hout _ _ _ (mem_bdry_of_kept hT.1 hR (not_not.mp ha) hbT hb hx1 hx2) hjy
        exact edge_unique hT.1 hbT hdOutT hx2 hdOutE
    -- a path enters `R` only from `dIn`
    have hB : ∀ e, ReflTransGen (StepAt T j) e dIn → e ∈ T → e ∉ R → ReflTransGen (StepAt T' j) e dIn := fun e h heT heR =>
      reflTransGen_swap.mp (path_inside (r' := Function.swap (StepAt T' j)) (K := fun e => e ∈ T ∧ e ∉ R)
        (fun _ _ ha _ h => step_kept h ha.2)
        (fun a b ha hb ⟨haT, x, hx1, hx2⟩ => by
          obtain rfl := hin _ _ _ (mem_bdry_of_kept hT.1 hR (not_not.mp fun h => ha ⟨haT, h⟩) hb.1 hb.2 hx2 hx1) hwj
          exact edge_unique hT.1 hb.1 hdInT hx1 hdInE)
        (reflTransGen_swap.mpr h) ⟨heT, heR⟩)
    -- so the kept triples at `j` lie on the round trip `N1 → N2 → dOut →* · →* dIn → N1`, and `dOut` is one of them
    have hub : ∀ d ∈ T, d ∉ R → HasPlane d j → ReflTransGen (StepAt T' j) d N1 ∧ ReflTransGen (StepAt T' j) N1 d :=
      fun d hdT hdR hdj =>
        ⟨(hB d (hlink j d hdT dIn hdInT hdj (hasPlane_of_edge_left hdInE)) hdT hdR).tail s1,
          .head s2 (.head s3 (hA d (hlink j dOut hdOutT d hdT (hasPlane_of_edge_right hdOutE) hdj) hdR))⟩
    have hub' : ∀ d ∈ T', HasPlane d j → ReflTransGen (StepAt T' j) d N1 ∧ ReflTransGen (StepAt T' j) N1 d := by
      intro d hd hdj
      rcases mem_clip_iff.mp hd with ⟨hdT, hdR⟩ | ⟨⟨a, b⟩, he, rfl⟩
      · exact hub d hdT hdR hdj
      · rcases hdj with rfl | rfl | h
        · rw [hout _ _ _ he hjy]
          exact ⟨.head s3 (hub dOut hdOutT hdOutR (hasPlane_of_edge_right hdOutE)).1, .single s2⟩
        · rw [hin _ _ _ he hwj]
          exact ⟨.refl, .refl⟩
        · exact absurd h hjp
    intro d hd d' hd' hdj hdj'
    exact (hub' d hd hdj).1.trans (hub' d' hd' hdj').2

/-- T15.2/T15.3: the vertices of every face of the cell still form one umbrella after a clip -/
theorem linkConn_preserved (hT : Closed T) (hR : R ⊆ T) (hI : Inv succ R) (hC : Conn succ) (hlink : ∀ j, LinkConn T j)
    (hp : ∀ d ∈ T, ¬ HasPlane d p) : ∀ j, LinkConn (clipDuals T R p) j := by
  intro j
  by_cases hjp : j = p
  · subst hjp
    exact link_new hI hC hp
  · exact link_old hT hR hI hlink hjp

#print axioms MVoro.LinkClip.linkConn_preserved
end MVoro.LinkClip
