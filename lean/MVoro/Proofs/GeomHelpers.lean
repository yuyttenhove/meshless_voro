/-
C19: the public geometry helpers (`src/geometry.rs`, reference model `MVoro.Ref.*`) satisfy their defining equations over
the reals, through `instScalarReal`, the `Scalar ℝ` instance (`sqrt`, `|·|`, `signum`, decimal literals, comparisons) that all
real-number statements of the development use.
-/
import MVoro.Model.Geom
import MVoro.Proofs.Vec3
import Mathlib.Analysis.Real.Sqrt
import Mathlib.Tactic.Ring
import Mathlib.Tactic.FieldSimp
import Mathlib.Tactic.Linarith
import Mathlib.Tactic.Positivity
import Mathlib.Tactic.NormNum
import Mathlib.Tactic.LinearCombination

namespace MVoro.GeomHelpers

open MVoro Classical

noncomputable instance instScalarReal : Scalar ℝ where
  sqrt := Real.sqrt
  abs := fun x => |x|
  signum := fun x => if 0 ≤ x then 1 else -1
  lit := fun m e => (m : ℝ) / 10 ^ e
  lt := fun a b => decide (a < b)
  le := fun a b => decide (a ≤ b)

theorem norm2_def (a : V3 ℝ) : V3.norm2 a = a.x * a.x + a.y * a.y + a.z * a.z := rfl
theorem distance2_def (a b : V3 ℝ) :
    V3.distance2 a b = (a.x - b.x) * (a.x - b.x) + (a.y - b.y) * (a.y - b.y) + (a.z - b.z) * (a.z - b.z) := rfl
theorem det3cols_def (a b c : V3 ℝ) :
    det3cols a b c = c.x * (a.y * b.z - b.y * a.z) + c.y * (a.z * b.x - b.z * a.x) + c.z * (a.x * b.y - b.x * a.y) := rfl
theorem length_def (a : V3 ℝ) : V3.length a = Real.sqrt (V3.norm2 a) := rfl
theorem distance_def (a b : V3 ℝ) : V3.distance a b = Real.sqrt (V3.norm2 (a - b)) := rfl
theorem length_sub (a b : V3 ℝ) : V3.length (a - b) = V3.distance a b := rfl

theorem scalar_sqrt (x : ℝ) : Scalar.sqrt x = Real.sqrt x := rfl
theorem scalar_abs (x : ℝ) : Scalar.abs x = |x| := rfl
theorem scalar_signum (x : ℝ) : Scalar.signum x = if 0 ≤ x then (1 : ℝ) else -1 := rfl
theorem scalar_lit (m e : ℕ) : (Scalar.lit m e : ℝ) = (m : ℝ) / 10 ^ e := rfl
theorem scalar_lt (a b : ℝ) : Scalar.lt a b = decide (a < b) := rfl
theorem scalar_le (a b : ℝ) : Scalar.le a b = decide (a ≤ b) := rfl

theorem distance2_nonneg (a b : V3 ℝ) : 0 ≤ V3.distance2 a b := V3.norm2_nonneg _

/-- Cauchy–Schwarz, from Lagrange's identity -/
theorem dot_sq_le (u w : V3 ℝ) : V3.dot u w ^ 2 ≤ V3.norm2 u * V3.norm2 w := by
  rw [← sub_nonneg, ← V3.norm2_cross]
  exact V3.norm2_nonneg _

theorem length_smul (k : ℝ) (a : V3 ℝ) : V3.length (V3.smul k a) = |k| * V3.length a := by
  rw [length_def, length_def, V3.norm2_smul, Real.sqrt_mul (sq_nonneg k), Real.sqrt_sq_eq_abs]

theorem length_sq (a : V3 ℝ) : V3.length a ^ 2 = V3.norm2 a := Real.sq_sqrt (V3.norm2_nonneg a)

theorem length_add_le (u v : V3 ℝ) : V3.length (u + v) ≤ V3.length u + V3.length v := by
  have hcs : V3.dot u v ≤ V3.length u * V3.length v := by
    rw [length_def, length_def, ← Real.sqrt_mul (V3.norm2_nonneg u)]
    exact le_trans (le_abs_self _) (Real.abs_le_sqrt (dot_sq_le u v))
  refine Real.sqrt_le_iff.mpr ⟨add_nonneg (Real.sqrt_nonneg _) (Real.sqrt_nonneg _), ?_⟩
  rw [V3.norm2_add, add_sq, length_sq, length_sq]
  linarith

theorem distance_comm (a b : V3 ℝ) : V3.distance a b = V3.distance b a := by
  rw [distance_def, distance_def, V3.norm2_sub_comm]

theorem distance_triangle (a b c : V3 ℝ) : V3.distance a c ≤ V3.distance a b + V3.distance b c := by
  rw [← length_sub, V3.sub_eq_sub_add_sub a b c]
  exact length_add_le _ _

theorem distance_of_sub_eq {a b e : V3 ℝ} {k : ℝ} (hk : 0 ≤ k) (h : a - b = V3.smul k e) :
    V3.distance a b = k * V3.length e := by
  rw [← length_sub, h, length_smul, abs_of_nonneg hk]

theorem intersectPlanes_x (p0 p1 p2 : Plane ℝ) :
    (Ref.intersectPlanes p0 p1 p2).x =
      (V3.dot p0.p p0.n * (V3.cross p1.n p2.n).x + V3.dot p1.p p1.n * (V3.cross p2.n p0.n).x
        + V3.dot p2.p p2.n * (V3.cross p0.n p1.n).x) / det3cols p0.n p1.n p2.n := rfl
theorem intersectPlanes_y (p0 p1 p2 : Plane ℝ) :
    (Ref.intersectPlanes p0 p1 p2).y =
      (V3.dot p0.p p0.n * (V3.cross p1.n p2.n).y + V3.dot p1.p p1.n * (V3.cross p2.n p0.n).y
        + V3.dot p2.p p2.n * (V3.cross p0.n p1.n).y) / det3cols p0.n p1.n p2.n := rfl
theorem intersectPlanes_z (p0 p1 p2 : Plane ℝ) :
    (Ref.intersectPlanes p0 p1 p2).z =
      (V3.dot p0.p p0.n * (V3.cross p1.n p2.n).z + V3.dot p1.p p1.n * (V3.cross p2.n p0.n).z
        + V3.dot p2.p p2.n * (V3.cross p0.n p1.n).z) / det3cols p0.n p1.n p2.n := rfl

theorem intersectPlanes_eq (p0 p1 p2 : Plane ℝ) : Ref.intersectPlanes p0 p1 p2 =
    V3.divs (V3.smul (V3.dot p0.p p0.n) (V3.cross p1.n p2.n) + V3.smul (V3.dot p1.p p1.n) (V3.cross p2.n p0.n)
      + V3.smul (V3.dot p2.p p2.n) (V3.cross p0.n p1.n)) (det3cols p0.n p1.n p2.n) := rfl

/-- T19.1: for non-degenerate normals the point returned by `intersect_planes` lies on all three planes. -/
theorem intersectPlanes_on (p0 p1 p2 : Plane ℝ) (hdet : det3cols p0.n p1.n p2.n ≠ 0) :
    V3.dot p0.n (Ref.intersectPlanes p0 p1 p2 - p0.p) = 0 ∧
    V3.dot p1.n (Ref.intersectPlanes p0 p1 p2 - p1.p) = 0 ∧
    V3.dot p2.n (Ref.intersectPlanes p0 p1 p2 - p2.p) = 0 := by
  obtain ⟨h0, h1, h2⟩ := V3.dot_dual p0.n p1.n p2.n (V3.dot p0.p p0.n) (V3.dot p1.p p1.n) (V3.dot p2.p p2.n) hdet
  simp only [V3.dot_sub_right, intersectPlanes_eq, h0, h1, h2, V3.dot_comm p0.n p0.p, V3.dot_comm p1.n p1.p,
    V3.dot_comm p2.n p2.p, sub_self, and_self]

/-- T19.1: a point on all three planes is the one returned by `intersect_planes`. -/
theorem intersectPlanes_unique (p0 p1 p2 : Plane ℝ) (hdet : det3cols p0.n p1.n p2.n ≠ 0) (q : V3 ℝ)
    (h0 : V3.dot p0.n (q - p0.p) = 0) (h1 : V3.dot p1.n (q - p1.p) = 0)
    (h2 : V3.dot p2.n (q - p2.p) = 0) : q = Ref.intersectPlanes p0 p1 p2 := by
  rw [V3.dot_sub_right, sub_eq_zero, V3.dot_comm _ (Plane.p _)] at h0 h1 h2
  rw [intersectPlanes_eq, ← h0, ← h1, ← h2]
  exact V3.eq_divs_of_smul_eq hdet (V3.cramer _ _ _ q)

theorem projectOnto_eq (pl : Plane ℝ) (q : V3 ℝ) :
    Ref.projectOnto pl q = q + V3.smul (V3.dot (pl.p - q) pl.n / V3.dot pl.n pl.n) pl.n := by
  refine V3.ext_of_dot fun w => ?_
  simp only [Ref.projectOnto, V3.projectOnto, N, Nat.cast_one, V3.dot_add_right, V3.dot_smul_right]
  ring

/-- T19.2: `Plane::project_onto` moves the point along the normal. -/
theorem projectOnto_parallel (pl : Plane ℝ) (q : V3 ℝ) :
    Ref.projectOnto pl q - q = V3.smul (V3.dot (pl.p - q) pl.n / V3.dot pl.n pl.n) pl.n := by
  rw [projectOnto_eq, V3.add_sub_cancel_left]

/-- T19.2: for a non-zero normal `Plane::project_onto` returns a point of the plane. -/
theorem projectOnto_on_plane (pl : Plane ℝ) (q : V3 ℝ) (hn : V3.dot pl.n pl.n ≠ 0) :
    V3.dot pl.n (Ref.projectOnto pl q - pl.p) = 0 := by
  rw [projectOnto_eq, V3.dot_sub_right, V3.dot_add_right, V3.dot_smul_right, div_mul_cancel₀ _ hn,
    V3.dot_sub_left, V3.dot_comm pl.p, V3.dot_comm q]
  ring

theorem projectOnto_fixes (pl : Plane ℝ) (q : V3 ℝ) (hq : V3.dot pl.n (q - pl.p) = 0) :
    Ref.projectOnto pl q = q := by
  have h : V3.dot (pl.p - q) pl.n = 0 := by
    rw [V3.dot_sub_left, V3.dot_comm pl.p, V3.dot_comm q, ← neg_sub, ← V3.dot_sub_right, hq, neg_zero]
  rw [projectOnto_eq, h, zero_div, V3.add_smul_zero]

/-- T19.2: `Plane::project_onto` is idempotent. -/
theorem projectOnto_idem (pl : Plane ℝ) (q : V3 ℝ) :
    Ref.projectOnto pl (Ref.projectOnto pl q) = Ref.projectOnto pl q := by
  by_cases hn : V3.dot pl.n pl.n = 0
  · rw [projectOnto_eq pl (Ref.projectOnto pl q), hn, div_zero, V3.add_smul_zero]
  · exact projectOnto_fixes pl _ (projectOnto_on_plane pl q hn)

/-- T19.2: for non-parallel planes `Plane::project_onto_intersection` returns a point on both planes, displaced from
`point` orthogonally to the intersection line. -/
theorem projectOntoIntersection_on (self other : Plane ℝ) (point : V3 ℝ)
    (h : V3.norm2 (V3.cross self.n other.n) ≠ 0) :
    V3.dot self.n (Ref.projectOntoIntersection self other point - self.p) = 0 ∧
    V3.dot other.n (Ref.projectOntoIntersection self other point - other.p) = 0 ∧
    V3.dot (Ref.projectOntoIntersection self other point - point) (V3.cross self.n other.n) = 0 := by
  -- `det3cols a b (a × b) = |a × b|²` by definition
  have := intersectPlanes_on self other ⟨V3.cross self.n other.n, point⟩ h
  exact ⟨this.1, this.2.1, (V3.dot_comm _ _).trans this.2.2⟩

/-- T19.2: `Plane::project_onto_intersection` is idempotent for non-parallel planes. -/
theorem projectOntoIntersection_idem (self other : Plane ℝ) (point : V3 ℝ)
    (h : V3.norm2 (V3.cross self.n other.n) ≠ 0) :
    Ref.projectOntoIntersection self other (Ref.projectOntoIntersection self other point)
      = Ref.projectOntoIntersection self other point := by
  obtain ⟨h0, h1, -⟩ := projectOntoIntersection_on self other point h
  symm
  refine intersectPlanes_unique self other ⟨V3.cross self.n other.n, _⟩ h _ h0 h1 ?_
  rw [V3.dot_sub_right, sub_self]

theorem signedVolumeTet_def (v0 v1 v2 v3 : V3 ℝ) :
    Ref.signedVolumeTet v0 v1 v2 v3 = det3cols (v1 - v0) (v2 - v0) (v3 - v0) / 6 := by
  simp only [Ref.signedVolumeTet, N, Nat.cast_ofNat]

/-- T19.3: the unit corner tetrahedron (v0 v1 v2 counter-clockwise seen from v3) has signed volume `+1/6`. -/
theorem signedVolumeTet_example :
    Ref.signedVolumeTet (⟨0, 0, 0⟩ : V3 ℝ) ⟨1, 0, 0⟩ ⟨0, 1, 0⟩ ⟨0, 0, 1⟩ = 1 / 6 := by
  simp only [signedVolumeTet_def, det3cols_def, sub_x, sub_y, sub_z]; norm_num

/-- T19.3: `signed_volume_tet` is one sixth of the triple product. -/
theorem signedVolumeTet_eq (v0 v1 v2 v3 : V3 ℝ) :
    Ref.signedVolumeTet v0 v1 v2 v3 = V3.dot (V3.cross (v1 - v0) (v2 - v0)) (v3 - v0) / 6 := by
  rw [signedVolumeTet_def, V3.det3cols_eq_dot, V3.dot_comm]

/-- T19.3: `signed_volume_tet` is positive iff `v3` is on the positive side of the oriented triangle `v0 v1 v2`. -/
theorem signedVolumeTet_pos_iff (v0 v1 v2 v3 : V3 ℝ) :
    0 < Ref.signedVolumeTet v0 v1 v2 v3 ↔ 0 < V3.dot (V3.cross (v1 - v0) (v2 - v0)) (v3 - v0) := by
  rw [signedVolumeTet_eq]
  exact div_pos_iff_of_pos_right (by norm_num)

/-- T19.3: `signed_area_tri` is `±½‖(v1-v0)×(v2-v0)‖`, with `+` iff the apex `t` satisfies `0 ≤ (t-v0)·n`. -/
theorem signedAreaTri_eq (v0 v1 v2 t : V3 ℝ) :
    Ref.signedAreaTri v0 v1 v2 t =
      (if 0 ≤ V3.dot (t - v0) (V3.cross (v1 - v0) (v2 - v0)) then 1 else -1) *
        ((1 / 2) * Real.sqrt (V3.norm2 (V3.cross (v1 - v0) (v2 - v0)))) := by
  simp only [Ref.signedAreaTri, Nat.cast_one, Nat.cast_ofNat, scalar_signum, length_smul, V3.dot_smul_right,
    mul_nonneg_iff_of_pos_left (show (0 : ℝ) < 1 / 2 by norm_num)]
  rw [abs_of_pos (by norm_num), length_def, mul_comm]

/-- T19.3: the absolute value of `signed_area_tri` is the area of the triangle. -/
theorem signedAreaTri_abs (v0 v1 v2 t : V3 ℝ) :
    |Ref.signedAreaTri v0 v1 v2 t| = (1 / 2) * Real.sqrt (V3.norm2 (V3.cross (v1 - v0) (v2 - v0))) := by
  rw [signedAreaTri_eq]
  split_ifs
  · rw [one_mul, abs_of_nonneg (by positivity)]
  · rw [neg_one_mul, abs_neg, abs_of_nonneg (by positivity)]

theorem signedAreaTri_pos (v0 v1 v2 t : V3 ℝ)
    (h : 0 ≤ V3.dot (t - v0) (V3.cross (v1 - v0) (v2 - v0))) :
    Ref.signedAreaTri v0 v1 v2 t = (1 / 2) * Real.sqrt (V3.norm2 (V3.cross (v1 - v0) (v2 - v0))) ∧
    0 ≤ Ref.signedAreaTri v0 v1 v2 t := by
  rw [signedAreaTri_eq, if_pos h, one_mul]
  exact ⟨rfl, by positivity⟩

theorem signedAreaTri_neg (v0 v1 v2 t : V3 ℝ)
    (h : V3.dot (t - v0) (V3.cross (v1 - v0) (v2 - v0)) < 0) :
    Ref.signedAreaTri v0 v1 v2 t = -((1 / 2) * Real.sqrt (V3.norm2 (V3.cross (v1 - v0) (v2 - v0)))) ∧
    Ref.signedAreaTri v0 v1 v2 t ≤ 0 := by
  rw [signedAreaTri_eq, if_neg (not_le.mpr h), neg_one_mul]
  exact ⟨rfl, neg_nonpos.mpr (by positivity)⟩

theorem signedAreaTri_pos_iff (v0 v1 v2 t : V3 ℝ)
    (hnd : V3.norm2 (V3.cross (v1 - v0) (v2 - v0)) ≠ 0) :
    0 < Ref.signedAreaTri v0 v1 v2 t ↔ 0 ≤ V3.dot (t - v0) (V3.cross (v1 - v0) (v2 - v0)) := by
  have hpos : 0 < 1 / 2 * Real.sqrt (V3.norm2 (V3.cross (v1 - v0) (v2 - v0))) := by
    have := Real.sqrt_pos.mpr (lt_of_le_of_ne (V3.norm2_nonneg _) (Ne.symm hnd))
    positivity
  refine ⟨fun h => not_lt.mp fun hc => ?_, fun h => by rwa [(signedAreaTri_pos v0 v1 v2 t h).1]⟩
  exact absurd (signedAreaTri_neg v0 v1 v2 t hc).2 (not_le.mpr h)

/-- T19.3: exchanging `v1` and `v2` negates `signed_area_tri` when the apex is off the triangle's plane. -/
theorem signedAreaTri_swap (v0 v1 v2 t : V3 ℝ)
    (h : V3.dot (t - v0) (V3.cross (v1 - v0) (v2 - v0)) ≠ 0) :
    Ref.signedAreaTri v0 v2 v1 t = -Ref.signedAreaTri v0 v1 v2 t := by
  rw [signedAreaTri_eq, signedAreaTri_eq, V3.dot_cross_swap, V3.cross_anticomm (v1 - v0), V3.norm2_smul, neg_one_sq, one_mul]
  rcases lt_or_gt_of_ne h with hlt | hgt
  · rw [if_pos (neg_nonneg.mpr hlt.le), if_neg (not_le.mpr hlt), neg_one_mul, neg_neg, one_mul]
  · rw [if_neg (not_le.mpr (neg_lt_zero.mpr hgt)), if_pos hgt.le, neg_one_mul, one_mul]

/-- T19.3: two apexes strictly on the same side of the triangle's plane give the same `signed_area_tri`. -/
theorem signedAreaTri_indep_t (v0 v1 v2 t t' : V3 ℝ)
    (h : 0 < V3.dot (t - v0) (V3.cross (v1 - v0) (v2 - v0)) *
          V3.dot (t' - v0) (V3.cross (v1 - v0) (v2 - v0))) :
    Ref.signedAreaTri v0 v1 v2 t = Ref.signedAreaTri v0 v1 v2 t' := by
  rw [signedAreaTri_eq, signedAreaTri_eq]
  rcases (mul_pos_iff.mp h) with ⟨h1, h2⟩ | ⟨h1, h2⟩
  · rw [if_pos h1.le, if_pos h2.le]
  · rw [if_neg (not_le.mpr h1), if_neg (not_le.mpr h2)]

theorem sphere2_center (a b : V3 ℝ) : (Ref.sphere2 a b).center = V3.smul (1 / 2) (a + b) := by
  simp only [Ref.sphere2, N, Nat.cast_one, Nat.cast_ofNat]

theorem sphere2_radius (a b : V3 ℝ) :
    (Ref.sphere2 a b).radius = 1 / 2 * Real.sqrt (V3.norm2 (a - b)) := by
  simp only [Ref.sphere2, N, Nat.cast_one, Nat.cast_ofNat]
  rfl

/-- T19.4: `Sphere::from_two_points` is centred at the midpoint and passes through both points. -/
theorem sphere2_on (a b : V3 ℝ) :
    (Ref.sphere2 a b).center = V3.smul (1 / 2) (a + b) ∧
    0 ≤ (Ref.sphere2 a b).radius ∧
    V3.distance2 a (Ref.sphere2 a b).center = (Ref.sphere2 a b).radius ^ 2 ∧
    V3.distance2 b (Ref.sphere2 a b).center = (Ref.sphere2 a b).radius ^ 2 := by
  rw [sphere2_radius, sphere2_center, mul_pow, Real.sq_sqrt (V3.norm2_nonneg _)]
  refine ⟨rfl, by positivity, ?_, ?_⟩ <;>
  · simp only [V3.distance2, V3.norm2_sub, V3.norm2_smul, V3.dot_smul_right, V3.dot_add_right, V3.norm2_add,
      V3.dot_comm b a, ← V3.norm2_eq_dot]
    ring

/-- twice `|u × v|²` times the circumcentre of the triangle `0 u v` -/
def circW (u v : V3 ℝ) : V3 ℝ := V3.cross (V3.smul (V3.norm2 u) v - V3.smul (V3.norm2 v) u) (V3.cross u v)

/-- the circumcentre of the triangle `0 u v`, as `Sphere::from_three_points` computes it -/
noncomputable def circC (u v : V3 ℝ) : V3 ℝ := V3.smul (1 / V3.norm2 (V3.cross u v)) (V3.smul (1 / 2) (circW u v))

theorem sphere3_center (a b c : V3 ℝ) : (Ref.sphere3 a b c).center = circC (a - c) (b - c) + c := by
  simp only [Ref.sphere3, circC, circW, N, Nat.cast_one, Nat.cast_ofNat]

theorem sphere3_radius (a b c : V3 ℝ) : (Ref.sphere3 a b c).radius =
    1 / 2 * Real.sqrt (V3.norm2 (a - c) * V3.norm2 (b - c) * (1 / V3.norm2 (V3.cross (a - c) (b - c)))
      * V3.norm2 (a - c - (b - c))) := by
  simp only [Ref.sphere3, N, Nat.cast_one, Nat.cast_ofNat]
  rfl

theorem dot_circW (u v : V3 ℝ) : V3.dot u (circW u v) = V3.norm2 u * V3.norm2 (V3.cross u v) ∧
    V3.dot v (circW u v) = V3.norm2 v * V3.norm2 (V3.cross u v) := by
  constructor <;>
  · rw [circW, V3.dot_cross_cyc, V3.dot_comm, V3.dot_cross_cross, V3.norm2_cross]
    simp only [V3.dot_sub_left, V3.dot_smul_left, V3.norm2_eq_dot, V3.dot_comm v u]
    ring

theorem dot_circW_cross (u v : V3 ℝ) : V3.dot (circW u v) (V3.cross u v) = 0 := by
  rw [circW, V3.dot_comm, V3.dot_cross_self_right]

/-- Lagrange's identity for `m × n` with `m = |u|² v - |v|² u` orthogonal to `n = u × v`, and `|m|² = |u|²|v|²|u - v|²` -/
theorem norm2_circW (u v : V3 ℝ) :
    V3.norm2 (circW u v) = V3.norm2 u * V3.norm2 v * V3.norm2 (u - v) * V3.norm2 (V3.cross u v) := by
  rw [circW, V3.norm2_cross, V3.norm2_sub]
  simp only [V3.norm2_eq_dot, V3.dot_sub_left, V3.dot_sub_right, V3.dot_smul_left, V3.dot_smul_right,
    V3.dot_cross_self_left, V3.dot_cross_self_right, V3.dot_comm v u]
  ring

/-- `w = circC u v` is equidistant from `0`, `u`, `v` and in their plane; the radicand of the circumradius is `4 |w|²` -/
theorem circum3 (u v : V3 ℝ) (h : V3.norm2 (V3.cross u v) ≠ 0) :
    2 * V3.dot u (circC u v) = V3.norm2 u ∧ 2 * V3.dot v (circC u v) = V3.norm2 v ∧
    V3.norm2 u * V3.norm2 v * (1 / V3.norm2 (V3.cross u v)) * V3.norm2 (u - v) = 4 * V3.norm2 (circC u v) ∧
    V3.dot (circC u v) (V3.cross u v) = 0 := by
  have e := one_div_mul_cancel h
  simp only [circC, V3.dot_smul_left, V3.dot_smul_right, V3.norm2_smul, dot_circW, dot_circW_cross, norm2_circW]
  generalize 1 / V3.norm2 (V3.cross u v) = i at e ⊢
  refine ⟨?_, ?_, ?_, ?_⟩
  · linear_combination V3.norm2 u * e
  · linear_combination V3.norm2 v * e
  · linear_combination (-(V3.norm2 u * V3.norm2 v * V3.norm2 (u - v) * i)) * e
  · ring

theorem distance2_of_two_dot {a c w : V3 ℝ} (h : 2 * V3.dot (a - c) w = V3.norm2 (a - c)) :
    V3.distance2 a (w + c) = V3.norm2 w := by
  rw [V3.distance2, V3.sub_add_eq, V3.norm2_sub, h, sub_self, zero_add]

/-- T19.4: for a non-degenerate triangle `Sphere::from_three_points` passes through the three points, with its centre in
their plane. -/
theorem sphere3_on (a b c : V3 ℝ) (h : V3.norm2 (V3.cross (a - c) (b - c)) ≠ 0) :
    0 ≤ (Ref.sphere3 a b c).radius ∧
    V3.distance2 a (Ref.sphere3 a b c).center = (Ref.sphere3 a b c).radius ^ 2 ∧
    V3.distance2 b (Ref.sphere3 a b c).center = (Ref.sphere3 a b c).radius ^ 2 ∧
    V3.distance2 c (Ref.sphere3 a b c).center = (Ref.sphere3 a b c).radius ^ 2 ∧
    V3.dot ((Ref.sphere3 a b c).center - c) (V3.cross (a - c) (b - c)) = 0 := by
  obtain ⟨hu, hv, hw, hn⟩ := circum3 (a - c) (b - c) h
  have hr (n : ℝ) : (1 / 2) ^ 2 * (4 * n) = n := by ring
  rw [sphere3_radius, sphere3_center, hw, mul_pow, Real.sq_sqrt (mul_nonneg (by norm_num) (V3.norm2_nonneg _)), hr,
    V3.add_sub_cancel_right]
  exact ⟨mul_nonneg (by norm_num) (Real.sqrt_nonneg _), distance2_of_two_dot hu, distance2_of_two_dot hv,
    by rw [V3.distance2, V3.norm2_sub_comm, V3.add_sub_cancel_right], hn⟩

theorem det4cols_def (a b c d : V4 ℝ) : det4cols a b c d =
    d.w * det3cols ⟨a.x, a.y, a.z⟩ ⟨b.x, b.y, b.z⟩ ⟨c.x, c.y, c.z⟩
    - c.w * det3cols ⟨a.x, a.y, a.z⟩ ⟨b.x, b.y, b.z⟩ ⟨d.x, d.y, d.z⟩
    + b.w * det3cols ⟨a.x, a.y, a.z⟩ ⟨c.x, c.y, c.z⟩ ⟨d.x, d.y, d.z⟩
    - a.w * det3cols ⟨b.x, b.y, b.z⟩ ⟨c.x, c.y, c.z⟩ ⟨d.x, d.y, d.z⟩ := rfl

/-! The quantities of `Sphere::from_four_points`: the columns `x`, `y`, `z`, `‖·‖²`, `1` of the four points and the
five 4×4 determinants `a`, `d_x`, `d_y`, `d_z`, `c` formed from them. -/

def s4x (a b c d : V3 ℝ) : V4 ℝ := ⟨a.x, b.x, c.x, d.x⟩
def s4y (a b c d : V3 ℝ) : V4 ℝ := ⟨a.y, b.y, c.y, d.y⟩
def s4z (a b c d : V3 ℝ) : V4 ℝ := ⟨a.z, b.z, c.z, d.z⟩
def s4n (a b c d : V3 ℝ) : V4 ℝ :=
  ⟨a.x * a.x + a.y * a.y + a.z * a.z, b.x * b.x + b.y * b.y + b.z * b.z,
   c.x * c.x + c.y * c.y + c.z * c.z, d.x * d.x + d.y * d.y + d.z * d.z⟩
def s4one : V4 ℝ := ⟨1, 1, 1, 1⟩
/-- the determinant `a` (six times the signed volume, up to sign) -/
def s4aa (a b c d : V3 ℝ) : ℝ := det4cols (s4x a b c d) (s4y a b c d) (s4z a b c d) s4one
def s4dx (a b c d : V3 ℝ) : ℝ := det4cols (s4n a b c d) (s4y a b c d) (s4z a b c d) s4one
def s4dy (a b c d : V3 ℝ) : ℝ := -det4cols (s4n a b c d) (s4x a b c d) (s4z a b c d) s4one
def s4dz (a b c d : V3 ℝ) : ℝ := det4cols (s4n a b c d) (s4x a b c d) (s4y a b c d) s4one
def s4cc (a b c d : V3 ℝ) : ℝ := det4cols (s4n a b c d) (s4x a b c d) (s4y a b c d) (s4z a b c d)

theorem sphere4_center (a b c d : V3 ℝ) : (Ref.sphere4 a b c d).center =
    V3.smul (1 / 2 / s4aa a b c d) ⟨s4dx a b c d, s4dy a b c d, s4dz a b c d⟩ := by
  simp only [Ref.sphere4, s4dx, s4dy, s4dz, s4aa, s4x, s4y, s4z, s4n, s4one, N, Nat.cast_one, Nat.cast_ofNat]
  exact V3.ext' (mul_comm _ _) (mul_comm _ _) (mul_comm _ _)

theorem sphere4_radius (a b c d : V3 ℝ) : (Ref.sphere4 a b c d).radius =
    Real.sqrt (V3.norm2 ⟨s4dx a b c d, s4dy a b c d, s4dz a b c d⟩ - 4 * s4aa a b c d * s4cc a b c d)
      * |1 / 2 / s4aa a b c d| := by
  simp only [Ref.sphere4, s4dx, s4dy, s4dz, s4aa, s4cc, s4x, s4y, s4z, s4n, s4one, N, Nat.cast_one,
    Nat.cast_ofNat, scalar_sqrt, scalar_abs, norm2_def]

/-- `det4cols` is an expansion along the last row; shifting the rows cyclically changes its sign -/
theorem det4cols_rot (a b c d : V4 ℝ) :
    det4cols a b c d = -det4cols ⟨a.y, a.z, a.w, a.x⟩ ⟨b.y, b.z, b.w, b.x⟩ ⟨c.y, c.z, c.w, c.x⟩ ⟨d.y, d.z, d.w, d.x⟩ := by
  simp only [det4cols_def, det3cols_def]; ring

theorem s4_rot (a b c d : V3 ℝ) : s4aa a b c d = -s4aa b c d a ∧ s4dx a b c d = -s4dx b c d a ∧
    s4dy a b c d = -s4dy b c d a ∧ s4dz a b c d = -s4dz b c d a ∧ s4cc a b c d = -s4cc b c d a :=
  ⟨det4cols_rot _ _ _ _, det4cols_rot _ _ _ _, congrArg Neg.neg (det4cols_rot _ _ _ _), det4cols_rot _ _ _ _,
    det4cols_rot _ _ _ _⟩

/-- the left side of the sphere equation `aa‖p‖² - p·(dx,dy,dz) + cc = 0`: the 5×5 determinant with rows `(‖q‖², q, 1)` for
`q = a, b, c, d, p`, expanded along the last row -/
def s4eq (a b c d p : V3 ℝ) : ℝ :=
  s4aa a b c d * V3.norm2 p - (p.x * s4dx a b c d + p.y * s4dy a b c d + p.z * s4dz a b c d) + s4cc a b c d

theorem s4eq_rot (a b c d p : V3 ℝ) : s4eq a b c d p = -s4eq b c d a p := by
  obtain ⟨h1, h2, h3, h4, h5⟩ := s4_rot a b c d
  rw [s4eq, h1, h2, h3, h4, h5, s4eq]; ring

/-- two equal last rows: with the 3×3 minors of `det4cols_def` as atoms everything cancels -/
theorem s4eq_last (a b c d : V3 ℝ) : s4eq a b c d d = 0 := by
  simp only [s4eq, s4aa, s4dx, s4dy, s4dz, s4cc, s4n, s4x, s4y, s4z, s4one, det4cols_def, norm2_def]
  ring

theorem s4eq_zero (a b c d : V3 ℝ) :
    s4eq a b c d a = 0 ∧ s4eq a b c d b = 0 ∧ s4eq a b c d c = 0 ∧ s4eq a b c d d = 0 := by
  refine ⟨?_, ?_, ?_, s4eq_last a b c d⟩
  · rw [s4eq_rot, s4eq_last, neg_zero]
  · rw [s4eq_rot, s4eq_rot b, s4eq_last, neg_zero, neg_zero]
  · rw [s4eq_rot, s4eq_rot b, s4eq_rot c, s4eq_last, neg_zero, neg_zero, neg_zero]

/-- completing the square in the sphere equation `A‖p‖² - p·D + C = 0` -/
theorem sphere_eq_aux (p D : V3 ℝ) {A C k : ℝ} (e : 2 * A * k = 1) (hk : A * V3.norm2 p - V3.dot p D + C = 0) :
    V3.distance2 p (V3.smul k D) = (V3.norm2 D - 4 * A * C) * k ^ 2 := by
  rw [V3.distance2, V3.norm2_sub, V3.norm2_smul, V3.dot_smul_right]
  linear_combination (2 * k) * hk + (2 * k * C - V3.norm2 p) * e

/-- T19.4: for non-coplanar points (`aa ≠ 0`) `Sphere::from_four_points` passes through all four points. -/
theorem sphere4_on (a b c d : V3 ℝ) (h : s4aa a b c d ≠ 0) :
    0 ≤ (Ref.sphere4 a b c d).radius ∧
    V3.distance2 a (Ref.sphere4 a b c d).center = (Ref.sphere4 a b c d).radius ^ 2 ∧
    V3.distance2 b (Ref.sphere4 a b c d).center = (Ref.sphere4 a b c d).radius ^ 2 ∧
    V3.distance2 c (Ref.sphere4 a b c d).center = (Ref.sphere4 a b c d).radius ^ 2 ∧
    V3.distance2 d (Ref.sphere4 a b c d).center = (Ref.sphere4 a b c d).radius ^ 2 := by
  obtain ⟨ka, kb, kc, kd⟩ := s4eq_zero a b c d
  have e : 2 * s4aa a b c d * (1 / 2 / s4aa a b c d) = 1 := by field_simp
  have ea := sphere_eq_aux a ⟨s4dx a b c d, s4dy a b c d, s4dz a b c d⟩ e ka
  -- the radicand, times the square `(1/(2a))²`, is a squared distance
  have hrad := nonneg_of_mul_nonneg_left (le_of_le_of_eq (distance2_nonneg _ _) ea)
    (sq_pos_of_ne_zero (right_ne_zero_of_mul_eq_one e))
  rw [sphere4_radius, sphere4_center, mul_pow, Real.sq_sqrt hrad, sq_abs]
  exact ⟨mul_nonneg (Real.sqrt_nonneg _) (abs_nonneg _), ea, sphere_eq_aux b _ e kb, sphere_eq_aux c _ e kc,
    sphere_eq_aux d _ e kd⟩

/-- T19.4: the determinant guard `aa` of `Sphere::from_four_points` is the `det4cols x y z one` of the definition. -/
theorem s4aa_eq (a b c d : V3 ℝ) : s4aa a b c d =
    det4cols (⟨a.x, b.x, c.x, d.x⟩ : V4 ℝ) ⟨a.y, b.y, c.y, d.y⟩ ⟨a.z, b.z, c.z, d.z⟩ ⟨1, 1, 1, 1⟩ := rfl

/-- T19.4: `aa` is the triple product of the edge vectors from `d` (so `aa ≠ 0` iff the points are not coplanar). -/
theorem s4aa_eq_det3 (a b c d : V3 ℝ) : s4aa a b c d = det3cols (a - d) (b - d) (c - d) := by
  simp only [s4aa, s4x, s4y, s4z, s4one, det4cols_def, det3cols_def, sub_x, sub_y, sub_z]
  ring

/-- T19.3: `signed_volume_tet` is alternating: exchanging two vertices negates it. -/
theorem signedVolumeTet_swap01 (v0 v1 v2 v3 : V3 ℝ) :
    Ref.signedVolumeTet v1 v0 v2 v3 = -Ref.signedVolumeTet v0 v1 v2 v3 := by
  -- six times the volume is `aa v1 v2 v3 v0`: rotate its rows, then the columns of the triple product
  rw [signedVolumeTet_def, signedVolumeTet_def, ← neg_div, ← s4aa_eq_det3 v1, (s4_rot v1 v2 v3 v0).1, neg_neg, s4aa_eq_det3]
  exact congrArg (· / 6) (V3.dot_cross_cyc _ _ _).symm

theorem signedVolumeTet_swap12 (v0 v1 v2 v3 : V3 ℝ) :
    Ref.signedVolumeTet v0 v2 v1 v3 = -Ref.signedVolumeTet v0 v1 v2 v3 := by
  rw [signedVolumeTet_def, signedVolumeTet_def, V3.det3cols_swap12, neg_div]

theorem signedVolumeTet_swap23 (v0 v1 v2 v3 : V3 ℝ) :
    Ref.signedVolumeTet v0 v1 v3 v2 = -Ref.signedVolumeTet v0 v1 v2 v3 := by
  rw [signedVolumeTet_def, signedVolumeTet_def, V3.det3cols_swap23, neg_div]

/-! The transpositions `(0 1)`, `(1 2)`, `(2 3)` generate the rest: `(0 2) = (0 1)(1 2)(0 1)` and so on. -/

theorem signedVolumeTet_swap02 (v0 v1 v2 v3 : V3 ℝ) :
    Ref.signedVolumeTet v2 v1 v0 v3 = -Ref.signedVolumeTet v0 v1 v2 v3 := by
  rw [signedVolumeTet_swap01, signedVolumeTet_swap12, signedVolumeTet_swap01, neg_neg]

theorem signedVolumeTet_swap13 (v0 v1 v2 v3 : V3 ℝ) :
    Ref.signedVolumeTet v0 v3 v2 v1 = -Ref.signedVolumeTet v0 v1 v2 v3 := by
  rw [signedVolumeTet_swap12, signedVolumeTet_swap23, signedVolumeTet_swap12, neg_neg]

theorem signedVolumeTet_swap03 (v0 v1 v2 v3 : V3 ℝ) :
    Ref.signedVolumeTet v3 v1 v2 v0 = -Ref.signedVolumeTet v0 v1 v2 v3 := by
  rw [signedVolumeTet_swap01, signedVolumeTet_swap13, signedVolumeTet_swap01, neg_neg]

theorem contains_iff (s : Sphere ℝ) (x : V3 ℝ) : Ref.contains s x = true ↔
    0 < s.radius ∧ V3.distance2 x s.center ≤ s.radius * s.radius * (1 + 1 / 10 ^ 10) := by
  simp only [Ref.contains, N, Nat.cast_zero, Nat.cast_one, scalar_lt, scalar_le, scalar_lit,
    Bool.and_eq_true, decide_eq_true_eq]

theorem one_le_slack : 1 ≤ Real.sqrt (1 + 1 / 10 ^ 10) := Real.le_sqrt_of_sq_le (by norm_num)

/-- `Sphere::contains` in terms of the distance: the radius is stretched by `√(1 + 1e-10)` -/
theorem contains_iff_distance (s : Sphere ℝ) (x : V3 ℝ) : Ref.contains s x = true ↔
    0 < s.radius ∧ V3.distance x s.center ≤ s.radius * Real.sqrt (1 + 1 / 10 ^ 10) := by
  rw [contains_iff, and_congr_right_iff]
  intro hr
  rw [distance_def, Real.sqrt_le_left (by positivity), mul_pow, Real.sq_sqrt (by norm_num), sq]
  rfl

/-- T19.4: `Sphere::contains` is monotone in the radius. -/
theorem contains_mono (c x : V3 ℝ) (r r' : ℝ) (h : Ref.contains ⟨c, r⟩ x = true) (hr : r ≤ r') :
    Ref.contains ⟨c, r'⟩ x = true := by
  rw [contains_iff] at h ⊢
  exact ⟨h.1.trans_le hr, h.2.trans
    (mul_le_mul_of_nonneg_right (mul_le_mul hr hr h.1.le (h.1.le.trans hr)) (by positivity))⟩

theorem extend_of_contains (s : Sphere ℝ) (x : V3 ℝ) (h : Ref.contains s x = true) :
    Ref.extend s x = s := by
  simp only [Ref.extend, h, if_true]

theorem normalize_sub (a b : V3 ℝ) : V3.normalize (a - b) = V3.smul (1 / V3.distance a b) (a - b) := by
  simp only [V3.normalize, V3.distance, N, Nat.cast_one]

theorem lt_distance_of_not_contains (s : Sphere ℝ) (x : V3 ℝ) (hr : 0 < s.radius)
    (h : Ref.contains s x = false) : s.radius < V3.distance x s.center := by
  have h' := mt (contains_iff_distance s x).mpr (Bool.eq_false_iff.mp h)
  exact (le_mul_of_one_le_right hr.le one_le_slack).trans_lt (not_le.mp fun hd => h' ⟨hr, hd⟩)

/-- `Sphere::extend` on the ray from the old centre `c` through `x`, with `i` for `1 / |x - c|`: `x` and `c` seen from the new
centre, and `x` seen from the point of the old sphere opposite to it, as multiples of `x - c` -/
theorem extend_aux (c x : V3 ℝ) (r i : ℝ) :
    x - V3.smul (1 / 2) (c - V3.smul r (V3.smul i (x - c)) + x) = V3.smul ((1 + r * i) / 2) (x - c) ∧
    V3.smul (1 / 2) (c - V3.smul r (V3.smul i (x - c)) + x) - c = V3.smul ((1 - r * i) / 2) (x - c) ∧
    x - (c - V3.smul r (V3.smul i (x - c))) = V3.smul (1 + r * i) (x - c) := by
  refine ⟨V3.ext_of_dot fun w => ?_, V3.ext_of_dot fun w => ?_, V3.ext_of_dot fun w => ?_⟩ <;>
  · simp only [V3.dot_sub_right, V3.dot_add_right, V3.dot_smul_right]
    ring

theorem extend_center_def (s : Sphere ℝ) (x : V3 ℝ) (h : Ref.contains s x = false) :
    (Ref.extend s x).center = V3.smul (1 / 2) (s.center - V3.smul s.radius
      (V3.smul (1 / V3.distance x s.center) (x - s.center)) + x) := by
  simp only [Ref.extend, h, V3.normalize, N, Nat.cast_one, Nat.cast_ofNat]
  rfl

theorem extend_radius_def (s : Sphere ℝ) (x : V3 ℝ) (h : Ref.contains s x = false) :
    (Ref.extend s x).radius = V3.distance (Ref.extend s x).center x := by
  simp only [Ref.extend, h]
  rfl

theorem extend_distances (s : Sphere ℝ) (x : V3 ℝ) (hr : 0 < s.radius) (h : Ref.contains s x = false) :
    V3.distance x (Ref.extend s x).center = (V3.distance x s.center + s.radius) / 2 ∧
    V3.distance (Ref.extend s x).center s.center = (V3.distance x s.center - s.radius) / 2 := by
  have hlt := lt_distance_of_not_contains s x hr h
  have hd : 0 < V3.distance x s.center := hr.trans hlt
  obtain ⟨e1, e2, -⟩ := extend_aux s.center x s.radius (1 / V3.distance x s.center)
  have hi := one_div_mul_cancel hd.ne'
  have hle : s.radius * (1 / V3.distance x s.center) ≤ 1 := (mul_one_div _ _).trans_le ((div_le_one hd).mpr hlt.le)
  rw [extend_center_def s x h, distance_of_sub_eq (by positivity) e1,
    distance_of_sub_eq (div_nonneg (sub_nonneg.mpr hle) (by norm_num)) e2, length_sub]
  constructor
  · linear_combination (s.radius / 2) * hi
  · linear_combination (-s.radius / 2) * hi

/-- T19.4: `Sphere::extend` by a point `x` at distance `d` from the centre, not contained: the new radius is `(d + r)/2`. -/
theorem extend_radius_eq (s : Sphere ℝ) (x : V3 ℝ) (hr : 0 < s.radius)
    (h : Ref.contains s x = false) :
    (Ref.extend s x).radius = (V3.distance x s.center + s.radius) / 2 := by
  rw [extend_radius_def s x h, distance_comm, (extend_distances s x hr h).1]

/-- T19.4: `x` lies on the new sphere and the old ball in the new one. -/
theorem extend_contains_point (s : Sphere ℝ) (x : V3 ℝ) (hr : 0 < s.radius)
    (h : Ref.contains s x = false) :
    V3.distance x (Ref.extend s x).center = (Ref.extend s x).radius ∧
    ∀ y : V3 ℝ, V3.distance y s.center ≤ s.radius →
      V3.distance y (Ref.extend s x).center ≤ (Ref.extend s x).radius := by
  refine ⟨by rw [extend_radius_def s x h, distance_comm], fun y hy => ?_⟩
  have ht := distance_triangle y s.center (Ref.extend s x).center
  rw [distance_comm s.center, (extend_distances s x hr h).2] at ht
  rw [extend_radius_eq s x hr h]
  exact ht.trans ((add_le_add hy le_rfl).trans_eq (by ring))

/-- T19.4: `(d + r)/2` is minimal: no smaller ball contains `x` and the point `opposite` of the old sphere. -/
theorem extend_minimal (s : Sphere ℝ) (x : V3 ℝ) (hr : 0 < s.radius)
    (h : Ref.contains s x = false) :
    (Ref.extend s x).radius = (V3.distance x s.center + s.radius) / 2 ∧
    ∀ (c' : V3 ℝ) (R : ℝ), V3.distance x c' ≤ R →
      V3.distance (s.center - V3.smul s.radius (V3.normalize (x - s.center))) c' ≤ R →
      (Ref.extend s x).radius ≤ R := by
  refine ⟨extend_radius_eq s x hr h, fun c' R hx ho => ?_⟩
  have hd : 0 < V3.distance x s.center := hr.trans (lt_distance_of_not_contains s x hr h)
  obtain ⟨-, -, e3⟩ := extend_aux s.center x s.radius (1 / V3.distance x s.center)
  have ht := distance_triangle x c' (s.center - V3.smul s.radius (V3.smul (1 / V3.distance x s.center) (x - s.center)))
  rw [distance_of_sub_eq (by positivity) e3, distance_comm c', length_sub, add_mul, one_mul, mul_assoc,
    one_div_mul_cancel hd.ne', mul_one] at ht
  rw [normalize_sub] at ho
  rw [extend_radius_eq s x hr h, div_le_iff₀ (by norm_num)]
  exact ht.trans ((add_le_add hx ho).trans_eq (mul_two R).symm)

example : det3cols (⟨1, 0, 0⟩ : V3 ℝ) ⟨0, 1, 0⟩ ⟨0, 0, 1⟩ ≠ 0 := by
  simp only [det3cols_def]; norm_num

example : Ref.intersectPlanes (⟨⟨1, 0, 0⟩, ⟨1, 0, 0⟩⟩ : Plane ℝ) ⟨⟨0, 1, 0⟩, ⟨0, 2, 0⟩⟩ ⟨⟨0, 0, 1⟩, ⟨0, 0, 3⟩⟩
    = ⟨1, 2, 3⟩ := by
  simp [Ref.intersectPlanes, det3cols_def, dot_def]

example : Ref.projectOnto (⟨⟨0, 0, 2⟩, ⟨5, 7, 0⟩⟩ : Plane ℝ) ⟨1, 2, 3⟩ = ⟨1, 2, 0⟩ := by
  apply V3.ext' <;>
  · simp only [projectOnto_eq, add_x, add_y, add_z, smul_x, smul_y, smul_z, dot_def, sub_x, sub_y, sub_z]
    norm_num

example : Ref.projectOntoIntersection (⟨⟨1, 0, 0⟩, ⟨0, 0, 0⟩⟩ : Plane ℝ) ⟨⟨0, 1, 0⟩, ⟨0, 0, 0⟩⟩ ⟨1, 2, 3⟩
    = ⟨0, 0, 3⟩ := by
  simp [Ref.projectOntoIntersection, Ref.intersectPlanes, det3cols_def, dot_def]

/-- the guard of `sphere4_on` is satisfiable -/
example : s4aa ⟨0, 0, 0⟩ ⟨1, 0, 0⟩ ⟨0, 1, 0⟩ ⟨0, 0, 1⟩ ≠ 0 := by
  simp only [s4aa_eq_det3, det3cols_def, sub_x, sub_y, sub_z]; norm_num

example : (Ref.sphere4 (⟨0, 0, 0⟩ : V3 ℝ) ⟨1, 0, 0⟩ ⟨0, 1, 0⟩ ⟨0, 0, 1⟩).center = ⟨1 / 2, 1 / 2, 1 / 2⟩ := by
  rw [sphere4_center]
  simp only [s4dx, s4dy, s4dz, s4aa, s4x, s4y, s4z, s4n, s4one, det4cols_def, det3cols_def, V3.smul, mul_zero, zero_mul,
    mul_one, one_mul, sub_zero, add_zero, zero_add]
  norm_num

/-- so is that of `sphere3_on` -/
example : V3.norm2 (V3.cross ((⟨1, 0, 0⟩ : V3 ℝ) - ⟨0, 0, 0⟩) (⟨0, 1, 0⟩ - ⟨0, 0, 0⟩)) ≠ 0 := by
  simp [norm2_def]

/-- so are the hypotheses of the `extend_*` theorems -/
example : Ref.contains (⟨⟨0, 0, 0⟩, 1⟩ : Sphere ℝ) ⟨3, 0, 0⟩ = false := by
  rw [Bool.eq_false_iff, Ne, contains_iff, distance2_def]
  norm_num

example : Ref.contains (⟨⟨0, 0, 0⟩, 1⟩ : Sphere ℝ) ⟨1, 0, 0⟩ = true := by
  rw [contains_iff, distance2_def]
  norm_num

#print axioms intersectPlanes_on
#print axioms intersectPlanes_unique
#print axioms projectOnto_on_plane
#print axioms projectOnto_parallel
#print axioms projectOnto_idem
#print axioms projectOnto_fixes
#print axioms projectOntoIntersection_on
#print axioms projectOntoIntersection_idem
#print axioms signedVolumeTet_swap01
#print axioms signedVolumeTet_swap12
#print axioms signedVolumeTet_swap02
#print axioms signedVolumeTet_swap23
#print axioms signedVolumeTet_swap13
#print axioms signedVolumeTet_swap03
#print axioms signedVolumeTet_example
#print axioms signedVolumeTet_pos_iff
#print axioms signedVolumeTet_eq
#print axioms signedAreaTri_eq
#print axioms signedAreaTri_abs
#print axioms signedAreaTri_swap
#print axioms signedAreaTri_indep_t
#print axioms signedAreaTri_pos
#print axioms signedAreaTri_neg
#print axioms signedAreaTri_pos_iff
#print axioms sphere2_on
#print axioms sphere3_on
#print axioms sphere4_on
#print axioms s4aa_eq
#print axioms s4aa_eq_det3
#print axioms contains_iff
#print axioms contains_mono
#print axioms extend_of_contains
#print axioms extend_radius_eq
#print axioms extend_contains_point
#print axioms extend_minimal

end MVoro.GeomHelpers
