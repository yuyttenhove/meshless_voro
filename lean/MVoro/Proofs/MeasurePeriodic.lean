/-
C02 (T02.2, periodic boxes): for generators that are pairwise different modulo a locally finite lattice `Λ` (an additive
subgroup of a finite-dimensional inner-product space in which every bounded set holds finitely many lattice points), the
measures of the lattice-periodic cells `VorP Λ G i` (nearest among all generators AND all their lattice images, own images
included) sum to the measure of any fundamental domain `F` of the lattice: `sum_measure_eq_periodic`.  The periodic cells are
the Voronoi regions of the family `images Λ G` of all lattice images (`VorP_eq`), so closedness, null overlaps and translation
covariance are those of `Vor`; their union is itself a fundamental domain: every point has a nearest image, and two translates
overlap in a null set.
For the box lattice `Λ = ⊕ ℤ · wₐ eₐ` the box `∏ [0, wₐ)` is a fundamental domain (`ZSpan.isAddFundamentalDomain'`) and
bounded sets hold finitely many lattice points (`ZSpan.setFinite_inter`): `sum_measure_eq_box_lattice`.
-/
import MVoro.Proofs.MeasureTiling
import Mathlib.MeasureTheory.Group.FundamentalDomain
import Mathlib.Algebra.Module.ZLattice.Basic

namespace MVoro.MeasurePeriodic
open MVoro.VorSet MVoro.MeasureTiling MeasureTheory Set
open scoped Pointwise

variable {E : Type*} [NormedAddCommGroup E]

def VorP (Λ : AddSubgroup E) {ι : Type*} (G : ι → E) (i : ι) : Set E :=
  {x | ∀ j, ∀ l : Λ, dist x (G i) ≤ dist x (G j + l)}

section images
variable (Λ : AddSubgroup E) {ι : Type*} (G : ι → E)

def images (p : ι × Λ) : E := G p.1 + p.2

theorem VorP_eq (i : ι) : VorP Λ G i = Vor (images Λ G) (i, 0) :=
  Set.ext fun x => ⟨fun h p => by simpa only [images, ZeroMemClass.coe_zero, add_zero] using h p.1 p.2,
    fun h j l => by simpa only [images, ZeroMemClass.coe_zero, add_zero] using h (j, l)⟩

theorem exists_nearest_image [Finite ι] [Nonempty ι]
    (hfin : ∀ s : Set E, Bornology.IsBounded s → (s ∩ (Λ : Set E)).Finite) (x : E) :
    ∃ p, x ∈ Vor (images Λ G) p := by
  obtain ⟨i0⟩ := ‹Nonempty ι›
  set R := dist x (images Λ G (i0, 0))
  -- finitely many images lie within distance `R`: their lattice vectors lie in the balls of that radius around the `x - G j`
  have hΛ : {l : Λ | (l : E) ∈ (⋃ j, Metric.closedBall (x - G j) R) ∩ Λ}.Finite :=
    (hfin _ (Bornology.isBounded_iUnion.2 fun _ => Metric.isBounded_closedBall)).preimage Subtype.val_injective.injOn
  have hT : {p | dist x (images Λ G p) ≤ R}.Finite :=
    (Set.finite_univ.prod hΛ).subset fun p hp => ⟨trivial, mem_iUnion.2 ⟨p.1, by
      rwa [Metric.mem_closedBall', dist_sub_eq_dist_add_left, add_comm]⟩, p.2.2⟩
  obtain ⟨p, hp, hmin⟩ := Set.exists_min_image _ (fun p => dist x (images Λ G p)) hT ⟨(i0, 0), le_refl R⟩
  exact ⟨p, fun q => (le_total (dist x (images Λ G q)) R).elim (hmin q) (le_trans hp)⟩

variable {Λ G}

theorem images_injective (hinj : ∀ i j (l : Λ), G i = G j + l → i = j ∧ l = 0) :
    Function.Injective (images Λ G) := by
  rintro ⟨i, l⟩ ⟨j, l'⟩ he
  have : G i = G j + ((l' - l : Λ) : E) := by
    rw [AddSubgroup.coe_sub, ← add_sub_assoc, ← show G i + l = G j + l' from he, add_sub_cancel_right]
  obtain ⟨rfl, hl⟩ := hinj i j (l' - l) this
  rw [sub_eq_zero.mp hl]

variable [InnerProductSpace ℝ E] (Λ G)

/-- translation covariance -/
theorem vadd_Vor_images (l : Λ) (p : ι × Λ) :
    l +ᵥ Vor (images Λ G) p = Vor (images Λ G) (p.1, p.2 + l) := by
  have hs : Function.Surjective fun q : ι × Λ => (q.1, q.2 + l) := fun q => ⟨(q.1, q.2 - l), by simp⟩
  have : (fun q => images Λ G q + (l : E)) = images Λ G ∘ fun q => (q.1, q.2 + l) := by
    funext q; simp [images, add_assoc]
  rw [← Vor_comp _ hs, ← this, Vor_translate]
  exact image_congr fun x _ => add_comm _ _

theorem vadd_VorP (l : Λ) (i : ι) : l +ᵥ VorP Λ G i = Vor (images Λ G) (i, l) := by
  rw [VorP_eq, vadd_Vor_images, zero_add]

end images

variable [InnerProductSpace ℝ E] [FiniteDimensional ℝ E] [MeasurableSpace E] [BorelSpace E]
  {Λ : AddSubgroup E} {ι : Type*} {G : ι → E}

theorem isAddFundamentalDomain_iUnion_VorP [Fintype ι] [Nonempty ι] [Countable Λ]
    (hinj : ∀ i j (l : Λ), G i = G j + l → i = j ∧ l = 0)
    (hfin : ∀ s : Set E, Bornology.IsBounded s → (s ∩ (Λ : Set E)).Finite)
    (μ : Measure E) [μ.IsAddHaarMeasure] :
    IsAddFundamentalDomain Λ (⋃ i, VorP Λ G i) μ := by
  refine ⟨?_, ?_, ?_⟩
  · simp only [VorP_eq]
    exact (MeasurableSet.iUnion fun i => measurableSet_Vor _ _).nullMeasurableSet
  · refine Filter.Eventually.of_forall fun x => ?_
    obtain ⟨⟨i, l⟩, h⟩ := exists_nearest_image Λ G hfin x
    rw [← vadd_VorP, mem_vadd_set_iff_neg_vadd_mem] at h
    exact ⟨-l, mem_iUnion.mpr ⟨i, h⟩⟩
  · intro l l' hll
    show μ ((l +ᵥ ⋃ i, VorP Λ G i) ∩ (l' +ᵥ ⋃ i, VorP Λ G i)) = 0
    simp only [Set.vadd_set_iUnion, Set.iUnion_inter, Set.inter_iUnion, vadd_VorP]
    exact measure_iUnion_null fun i => measure_iUnion_null fun j =>
      overlap_null _ μ ((images_injective hinj).ne fun h => hll (Prod.mk.inj h).2)

/-- C02, periodic boxes; `F` is the box -/
theorem sum_measure_eq_periodic [Fintype ι] [Nonempty ι] [Countable Λ]
    (hinj : ∀ i j (l : Λ), G i = G j + l → i = j ∧ l = 0)
    (hfin : ∀ s : Set E, Bornology.IsBounded s → (s ∩ (Λ : Set E)).Finite)
    (μ : Measure E) [μ.IsAddHaarMeasure] (F : Set E) (hF : IsAddFundamentalDomain Λ F μ) :
    ∑ i, μ (VorP Λ G i) = μ F := by
  rw [← (isAddFundamentalDomain_iUnion_VorP hinj hfin μ).measure_eq hF]
  simp only [VorP_eq]
  have hdis : Pairwise (Function.onFun (AEDisjoint μ) fun i => Vor (images Λ G) (i, 0)) := fun i j hij =>
    overlap_null _ μ ((images_injective hinj).ne fun h => hij (Prod.mk.inj h).1)
  rw [measure_iUnion₀ hdis (fun i => (measurableSet_Vor _ _).nullMeasurableSet), tsum_fintype]

/-- C02, periodic boxes, concretely: for a box `b a = wₐ eₐ`, and the half-open parallelepiped `ZSpan.fundamentalDomain b`
(coordinates in `[0, 1)`) is the box -/
theorem sum_measure_eq_box_lattice {κ : Type*} [Fintype κ] (b : Module.Basis κ ℝ E) {ι : Type*} [Fintype ι] [Nonempty ι]
    (G : ι → E)
    (hinj : ∀ i j (l : (Submodule.span ℤ (Set.range b)).toAddSubgroup), G i = G j + l → i = j ∧ l = 0)
    (μ : Measure E) [μ.IsAddHaarMeasure] :
    ∑ i, μ (VorP (Submodule.span ℤ (Set.range b)).toAddSubgroup G i) = μ (ZSpan.fundamentalDomain b) := by
  have : Countable (Submodule.span ℤ (Set.range b)).toAddSubgroup :=
    inferInstanceAs (Countable (Submodule.span ℤ (Set.range b)))
  refine sum_measure_eq_periodic hinj (fun s hs => ?_) μ _ (ZSpan.isAddFundamentalDomain' b μ)
  exact ZSpan.setFinite_inter b hs

/-- non-vacuity, and the single-generator case of C05 -/
example {κ : Type*} [Fintype κ] (b : Module.Basis κ ℝ E) (g : E) (μ : Measure E) [μ.IsAddHaarMeasure] :
    μ (VorP (Submodule.span ℤ (Set.range b)).toAddSubgroup (fun _ : Fin 1 => g) 0) = μ (ZSpan.fundamentalDomain b) := by
  have := sum_measure_eq_box_lattice b (fun _ : Fin 1 => g)
    (fun i j l h => ⟨Subsingleton.elim _ _, by
      have : (l : E) = 0 := by simpa using h.symm
      exact Subtype.ext this⟩) μ
  simpa using this

end MVoro.MeasurePeriodic
