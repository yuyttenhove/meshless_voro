/-
The exact in-sphere determinant (C10 / C03 / C05): `inSphereDet a b c d v` is a 4×4 determinant whose columns are the lifted
differences `bigInt b a, …, bigInt v a`.  Its algebra is stated for four arbitrary lifted vectors (`det4`): an identity
between 16 variables is far quicker for `ring` than the same identity between 15 coordinates with the squared norms written out.

`det4_plucker` is the relation `Orientation` rests on; `i64_sub_exact`: the differences the code feeds into the determinant
(grid coordinates in `[0, 2^52)`) are exact.
-/
import MVoro.Model.InSphere
import Mathlib.Tactic.Ring
import Mathlib.Tactic.LinearCombination

namespace MVoro.InSphereProofs

open MVoro Ref

variable {α : Type} [CommRing α]

/-- columns `b c d v`, developed along the last column as `inSphereDet` does -/
def det4 (b c d v : I4 α) : α :=
  v.c1 * det3 b.c0 c.c0 d.c0 b.c2 c.c2 d.c2 b.c3 c.c3 d.c3
    - v.c0 * det3 b.c1 c.c1 d.c1 b.c2 c.c2 d.c2 b.c3 c.c3 d.c3
    - v.c2 * det3 b.c0 c.c0 d.c0 b.c1 c.c1 d.c1 b.c3 c.c3 d.c3
    + v.c3 * det3 b.c0 c.c0 d.c0 b.c1 c.c1 d.c1 b.c2 c.c2 d.c2

def det3v (b c d : I4 α) : α := det3 b.c0 c.c0 d.c0 b.c1 c.c1 d.c1 b.c2 c.c2 d.c2

theorem inSphereDet_eq (a b c d v : I3 α) :
    inSphereDet a b c d v = det4 (bigInt b a) (bigInt c a) (bigInt d a) (bigInt v a) := rfl

theorem orient_eq (a b c d : I3 α) : orient a b c d = det3v (bigInt b a) (bigInt c a) (bigInt d a) := rfl

theorem det3v_swap12 (b c d : I4 α) : det3v c b d = - det3v b c d := by
  simp only [det3v, det3, det2]; ring

theorem det3v_swap23 (b c d : I4 α) : det3v b d c = - det3v b c d := by
  simp only [det3v, det3, det2]; ring

/-- development along the lifted row, less any linear function `w · x` of the spatial rows -/
theorem det4_lift_mod (w0 w1 w2 : α) (b c d v : I4 α) :
    det4 b c d v = (v.c3 - (w0 * v.c0 + w1 * v.c1 + w2 * v.c2)) * det3v b c d
      - (d.c3 - (w0 * d.c0 + w1 * d.c1 + w2 * d.c2)) * det3v b c v
      + (c.c3 - (w0 * c.c0 + w1 * c.c1 + w2 * c.c2)) * det3v b d v
      - (b.c3 - (w0 * b.c0 + w1 * b.c1 + w2 * b.c2)) * det3v c d v := by
  simp only [det4, det3v, det3, det2]; ring

theorem det4_lift (b c d v : I4 α) :
    det4 b c d v = v.c3 * det3v b c d - d.c3 * det3v b c v + c.c3 * det3v b d v - b.c3 * det3v c d v := by
  simpa only [zero_mul, add_zero, sub_zero] using det4_lift_mod 0 0 0 b c d v

theorem det3v_plucker (a b c d p : I4 α) :
    det3v a b p * det3v a c d - det3v a b c * det3v a p d + det3v a b d * det3v a p c = 0 := by
  simp only [det3v, det3, det2]; ring

theorem det4_plucker (a b c d p : I4 α) :
    det3v a b p * det4 a b c d - det3v a b c * det4 a b p d + det3v a b d * det4 a b p c = 0 := by
  have ha := det3v_plucker a b c d p
  have hb := det3v_plucker b a c d p
  simp only [det3v_swap12 a b] at hb
  -- developed along the lifted row, the coefficients of `c.c3, d.c3, p.c3` cancel in pairs; those of `a.c3, b.c3` are `ha, hb`
  rw [det4_lift, det4_lift, det4_lift]
  linear_combination b.c3 * ha + a.c3 * hb

theorem det3v_smul (k x y z : α) (b c d : I4 α) :
    det3v ⟨k * b.c0, k * b.c1, k * b.c2, x⟩ ⟨k * c.c0, k * c.c1, k * c.c2, y⟩ ⟨k * d.c0, k * d.c1, k * d.c2, z⟩
      = k ^ 3 * det3v b c d := by
  simp only [det3v, det3, det2]; ring

theorem bigInt_smul (k : α) (b a : I3 α) :
    bigInt ⟨k * b.c0, k * b.c1, k * b.c2⟩ ⟨k * a.c0, k * a.c1, k * a.c2⟩ =
      ⟨k * (bigInt b a).c0, k * (bigInt b a).c1, k * (bigInt b a).c2, k * k * (bigInt b a).c3⟩ := by
  simp only [bigInt, I4.mk.injEq]; refine ⟨?_, ?_, ?_, ?_⟩ <;> ring

theorem bigInt_translate (t b a : I3 α) :
    bigInt ⟨b.c0 + t.c0, b.c1 + t.c1, b.c2 + t.c2⟩ ⟨a.c0 + t.c0, a.c1 + t.c1, a.c2 + t.c2⟩ = bigInt b a := by
  simp only [bigInt, add_sub_add_right_eq_sub]

theorem inSphereDet_swap_bc (a b c d v : I3 α) : inSphereDet a c b d v = - inSphereDet a b c d v := by
  simp only [inSphereDet_eq, det4_lift, det3v_swap12 (bigInt c a) (bigInt b a)]; ring

theorem inSphereDet_swap_cd (a b c d v : I3 α) : inSphereDet a b d c v = - inSphereDet a b c d v := by
  simp only [inSphereDet_eq, det4_lift, det3v_swap23 _ (bigInt c a) (bigInt d a), det3v_swap12 (bigInt d a) (bigInt c a)]; ring

theorem inSphereDet_swap_dv (a b c d v : I3 α) : inSphereDet a b c v d = - inSphereDet a b c d v := by
  simp only [inSphereDet_eq, det4_lift, det3v_swap23 _ (bigInt d a) (bigInt v a)]; ring

/-- the point `p` lifted to the paraboloid, minus the lifted point `a` -/
def liftSub (p a : I3 α) : I4 α :=
  ⟨p.c0 - a.c0, p.c1 - a.c1, p.c2 - a.c2,
    (p.c0 * p.c0 + p.c1 * p.c1 + p.c2 * p.c2) - (a.c0 * a.c0 + a.c1 * a.c1 + a.c2 * a.c2)⟩

/-- `|p|² - |a|²` is `|p - a|² + 2 a · (p - a)` -/
theorem inSphereDet_eq_liftSub (a b c d v : I3 α) :
    inSphereDet a b c d v = det4 (liftSub b a) (liftSub c a) (liftSub d a) (liftSub v a) := by
  have e : ∀ p : I3 α, (liftSub p a).c3 - (2 * a.c0 * (liftSub p a).c0 + 2 * a.c1 * (liftSub p a).c1 + 2 * a.c2 * (liftSub p a).c2)
      = (bigInt p a).c3 := fun p => by simp only [liftSub, bigInt]; ring
  rw [inSphereDet_eq, det4_lift, det4_lift_mod (2 * a.c0) (2 * a.c1) (2 * a.c2) (liftSub b a), e, e, e, e]
  rfl

theorem liftSub_rebase (a b p : I3 α) :
    liftSub p b = ⟨(liftSub p a).c0 - (liftSub b a).c0, (liftSub p a).c1 - (liftSub b a).c1,
      (liftSub p a).c2 - (liftSub b a).c2, (liftSub p a).c3 - (liftSub b a).c3⟩ := by
  simp only [liftSub, sub_sub_sub_cancel_right]

theorem liftSub_neg (a b : I3 α) :
    liftSub a b = ⟨-(liftSub b a).c0, -(liftSub b a).c1, -(liftSub b a).c2, -(liftSub b a).c3⟩ := by
  simp only [liftSub, neg_sub]

theorem inSphereDet_swap_ab (a b c d v : I3 α) :
    inSphereDet b a c d v = - inSphereDet a b c d v := by
  -- between lifted points, the columns for the base `b` are `-b, c - b, d - b, v - b` in terms of those for the base `a`
  rw [inSphereDet_eq_liftSub, inSphereDet_eq_liftSub, liftSub_neg, liftSub_rebase a b c, liftSub_rebase a b d,
    liftSub_rebase a b v]
  simp only [det4, det3, det2]; ring

theorem orient_swap_ab (a b c d : I3 α) : orient b a c d = - orient a b c d := by
  simp only [orient, bigInt, det3, det2]; ring

theorem orient_swap_bc (a b c d : I3 α) : orient a c b d = - orient a b c d := det3v_swap12 _ _ _

theorem orient_swap_cd (a b c d : I3 α) : orient a b d c = - orient a b c d := det3v_swap23 _ _ _

/-- T05.3: the value `inSphereDet · orient` that decides a tie does not depend on the order in which the four sphere-defining
points are listed (the three adjacent transpositions generate `S₄`) -/
theorem insphere_consistent (a b c d v : I3 α) :
    inSphereDet b a c d v * orient b a c d = inSphereDet a b c d v * orient a b c d ∧
    inSphereDet a c b d v * orient a c b d = inSphereDet a b c d v * orient a b c d ∧
    inSphereDet a b d c v * orient a b d c = inSphereDet a b c d v * orient a b c d := by
  refine ⟨?_, ?_, ?_⟩
  · rw [inSphereDet_swap_ab, orient_swap_ab]; ring
  · rw [inSphereDet_swap_bc, orient_swap_bc]; ring
  · rw [inSphereDet_swap_cd, orient_swap_cd]; ring

/-- T05.3b: with `orient_scale`, the product that decides "inside" is multiplied by `k^8 ≥ 0`: the map to the grid must use ONE scale
on all active axes (fix `29187d1`) -/
theorem inSphereDet_scale (k : α) (a b c d v : I3 α) :
    inSphereDet ⟨k * a.c0, k * a.c1, k * a.c2⟩ ⟨k * b.c0, k * b.c1, k * b.c2⟩ ⟨k * c.c0, k * c.c1, k * c.c2⟩
        ⟨k * d.c0, k * d.c1, k * d.c2⟩ ⟨k * v.c0, k * v.c1, k * v.c2⟩
      = k ^ 5 * inSphereDet a b c d v := by
  simp only [inSphereDet_eq, bigInt_smul, det4_lift, det3v_smul]; ring

theorem orient_scale (k : α) (a b c d : I3 α) :
    orient ⟨k * a.c0, k * a.c1, k * a.c2⟩ ⟨k * b.c0, k * b.c1, k * b.c2⟩ ⟨k * c.c0, k * c.c1, k * c.c2⟩
        ⟨k * d.c0, k * d.c1, k * d.c2⟩ = k ^ 3 * orient a b c d := by
  simp only [orient_eq, bigInt_smul, det3v_smul]

theorem inSphereDet_translate (t a b c d v : I3 α) :
    inSphereDet ⟨a.c0 + t.c0, a.c1 + t.c1, a.c2 + t.c2⟩ ⟨b.c0 + t.c0, b.c1 + t.c1, b.c2 + t.c2⟩
        ⟨c.c0 + t.c0, c.c1 + t.c1, c.c2 + t.c2⟩ ⟨d.c0 + t.c0, d.c1 + t.c1, d.c2 + t.c2⟩
        ⟨v.c0 + t.c0, v.c1 + t.c1, v.c2 + t.c2⟩ = inSphereDet a b c d v := by
  simp only [inSphereDet_eq, bigInt_translate]

theorem det4_planar (b c d v : I4 α) (hb : b.c2 = 0) (hc : c.c2 = 0) (hv : v.c2 = 0) :
    det4 b c d v = d.c2 * (b.c0 * (c.c1 * v.c3 - v.c1 * c.c3) - b.c1 * (c.c0 * v.c3 - v.c0 * c.c3)
      + b.c3 * (c.c0 * v.c1 - v.c0 * c.c1)) := by
  simp only [det4, det3, det2, hb, hc, hv]; ring

/-- 2D runs: generator and neighbours share the last coordinate, the mirror image `d` through a `z` wall does not.  The last axis
enters through the one factor `d.c2 - a.c2` (the other is the in-circle determinant of `a b c v`), so the grid scale of an inactive
axis, which is not the shared one, cannot change the sign. -/
theorem inSphereDet_planar (a b c d v : I3 α) (hb : b.c2 = a.c2) (hc : c.c2 = a.c2) (hv : v.c2 = a.c2) :
    inSphereDet a b c d v =
      (d.c2 - a.c2) *
        ( (b.c0 - a.c0) * ((c.c1 - a.c1) * ((v.c0 - a.c0) * (v.c0 - a.c0) + (v.c1 - a.c1) * (v.c1 - a.c1))
                         - (v.c1 - a.c1) * ((c.c0 - a.c0) * (c.c0 - a.c0) + (c.c1 - a.c1) * (c.c1 - a.c1)))
        - (b.c1 - a.c1) * ((c.c0 - a.c0) * ((v.c0 - a.c0) * (v.c0 - a.c0) + (v.c1 - a.c1) * (v.c1 - a.c1))
                         - (v.c0 - a.c0) * ((c.c0 - a.c0) * (c.c0 - a.c0) + (c.c1 - a.c1) * (c.c1 - a.c1)))
        + ((b.c0 - a.c0) * (b.c0 - a.c0) + (b.c1 - a.c1) * (b.c1 - a.c1))
            * ((c.c0 - a.c0) * (v.c1 - a.c1) - (v.c0 - a.c0) * (c.c1 - a.c1)) ) := by
  rw [inSphereDet_eq, det4_planar _ _ _ _ (sub_eq_zero.mpr hb) (sub_eq_zero.mpr hc) (sub_eq_zero.mpr hv)]
  simp only [bigInt, hb, hc, hv, sub_self, mul_zero, add_zero]

theorem i64_sub_exact (a b : Int) (ha : 0 ≤ a ∧ a < 2 ^ 52) (hb : 0 ≤ b ∧ b < 2 ^ 52) :
    (Int64.ofInt a - Int64.ofInt b).toInt = a - b := by
  obtain ⟨ha1, ha2⟩ := ha
  obtain ⟨hb1, hb2⟩ := hb
  rw [← Int64.ofInt_sub]
  exact Int64.toInt_ofInt_of_le (by omega) (by omega)

/-- non-vacuity: a point inside the circumsphere, the four points in two orders -/
example :
    inSphereDet (⟨0, 0, 0⟩ : I3 Int) ⟨4, 0, 0⟩ ⟨0, 4, 0⟩ ⟨0, 0, 4⟩ ⟨1, 1, 1⟩ *
      orient (⟨0, 0, 0⟩ : I3 Int) ⟨4, 0, 0⟩ ⟨0, 4, 0⟩ ⟨0, 0, 4⟩ ≠ 0 ∧
    inSphereDet (⟨0, 0, 0⟩ : I3 Int) ⟨4, 0, 0⟩ ⟨0, 4, 0⟩ ⟨0, 0, 4⟩ ⟨1, 1, 1⟩ *
      orient (⟨0, 0, 0⟩ : I3 Int) ⟨4, 0, 0⟩ ⟨0, 4, 0⟩ ⟨0, 0, 4⟩ =
    inSphereDet (⟨0, 4, 0⟩ : I3 Int) ⟨0, 0, 0⟩ ⟨0, 0, 4⟩ ⟨4, 0, 0⟩ ⟨1, 1, 1⟩ *
      orient (⟨0, 4, 0⟩ : I3 Int) ⟨0, 0, 0⟩ ⟨0, 0, 4⟩ ⟨4, 0, 0⟩ := by
  decide

example : (Int64.ofInt 5 - Int64.ofInt (2 ^ 52 - 1)).toInt = 5 - (2 ^ 52 - 1) :=
  i64_sub_exact 5 (2 ^ 52 - 1) (by omega) (by omega)

end MVoro.InSphereProofs

namespace MVoro.InSphereWitness
open MVoro Ref

/-- T05.3b: the pinned tree rescaled every axis separately; here the answer flips when only the first axis is scaled by 2
(orientation stays positive, "outside" becomes "inside") -/
theorem anisotropic_scaling_flips_sign :
    (0 < orient (⟨0, 1, 3⟩ : I3 Int) ⟨2, 3, 0⟩ ⟨3, 0, 2⟩ ⟨3, 1, 1⟩ ∧
      0 < inSphereDet (⟨0, 1, 3⟩ : I3 Int) ⟨2, 3, 0⟩ ⟨3, 0, 2⟩ ⟨3, 1, 1⟩ ⟨1, 0, 1⟩) ∧
    (0 < orient (⟨0, 1, 3⟩ : I3 Int) ⟨4, 3, 0⟩ ⟨6, 0, 2⟩ ⟨6, 1, 1⟩ ∧
      inSphereDet (⟨0, 1, 3⟩ : I3 Int) ⟨4, 3, 0⟩ ⟨6, 0, 2⟩ ⟨6, 1, 1⟩ ⟨2, 0, 1⟩ < 0) := by
  decide

end MVoro.InSphereWitness

namespace MVoro.C10
open MVoro Ref

variable {α : Type}

def dist2 [Add α] [Sub α] [Mul α] (p o : I3 α) : α :=
  (p.c0 - o.c0) * (p.c0 - o.c0) + (p.c1 - o.c1) * (p.c1 - o.c1) + (p.c2 - o.c2) * (p.c2 - o.c2)

theorem dist2_comm [CommRing α] (p o : I3 α) : dist2 p o = dist2 o p := by
  simp only [dist2]; ring

/-- `det4_lift_mod` with each lifted coordinate reduced to the power of its point with respect to the sphere through `a` about an
arbitrary centre `o` -/
theorem insphere_powers [CommRing α] (a b c d v o : I3 α) :
    inSphereDet a b c d v = (dist2 v o - dist2 a o) * orient a b c d - (dist2 d o - dist2 a o) * orient a b c v
      + (dist2 c o - dist2 a o) * orient a b d v - (dist2 b o - dist2 a o) * orient a c d v := by
  have e : ∀ x : I3 α, (bigInt x a).c3 - (2 * (o.c0 - a.c0) * (bigInt x a).c0 + 2 * (o.c1 - a.c1) * (bigInt x a).c1
      + 2 * (o.c2 - a.c2) * (bigInt x a).c2) = dist2 x o - dist2 a o := fun x => by simp only [bigInt, dist2]; ring
  rw [InSphereProofs.inSphereDet_eq, InSphereProofs.det4_lift_mod (2 * (o.c0 - a.c0)) (2 * (o.c1 - a.c1)) (2 * (o.c2 - a.c2)),
    e, e, e, e]
  rfl

/-- **T10.1** for all points of any commutative ring (no 2^52 bound needed): the determinant the code computes is orientation
times the power of `v` w.r.t. the circumsphere -/
theorem insphere_power [CommRing α] (a b c d v o : I3 α)
    (hb : dist2 b o = dist2 a o) (hc : dist2 c o = dist2 a o) (hd : dist2 d o = dist2 a o) :
    inSphereDet a b c d v = orient a b c d * (dist2 v o - dist2 a o) := by
  rw [insphere_powers a b c d v o, hb, hc, hd, sub_self]; ring

end MVoro.C10

#print axioms MVoro.InSphereProofs.inSphereDet_swap_bc
#print axioms MVoro.InSphereProofs.inSphereDet_swap_cd
#print axioms MVoro.InSphereProofs.inSphereDet_swap_dv
#print axioms MVoro.InSphereProofs.inSphereDet_swap_ab
#print axioms MVoro.InSphereProofs.orient_swap_ab
#print axioms MVoro.InSphereProofs.orient_swap_bc
#print axioms MVoro.InSphereProofs.orient_swap_cd
#print axioms MVoro.InSphereProofs.insphere_consistent
#print axioms MVoro.InSphereProofs.i64_sub_exact
