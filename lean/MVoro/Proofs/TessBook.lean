/-
Bookkeeping of the compact tessellation (model `MVoro.Model.Tess`): T12 `finalize` and `neighbourIds`, T03.2 / T03.3 the
storage rule `shouldConstruct`, T13 the two build routes and the symmetric integrals, T07 `build` under a mask, T14.4 `zipData`.

Trap: this file must not import Mathlib's algebraic classes (not even transitively).  With them in scope everything still
builds, but the `0` of `List.sum` in `netFlux`, `conn_length`, `offsets_prefix`, `flux_cancels` is found through those classes
(`pp.explicit` shows it) and the statements are no longer the ones about core's `List.sum` with core's instances.  Hence
`Proofs/ListSum` (core only) for the sums, and `drop_sum_flatten` here.
-/
import MVoro.Model.Tess
import MVoro.Proofs.ListSum
import Mathlib.Data.List.Nodup

namespace MVoro.TessBook
open MVoro.Tess MVoro.ListSum

def WF (n : Nat) (faces : List Face) : Prop :=
  ∀ f ∈ faces, f.left < n ∧ ∀ r, f.right = some r → r < n

def occ (faces : List Face) (c i : Nat) : Nat :=
  match faces[i]? with
  | some f => (links f).count c
  | none => 0

/-- the slice of cell `c`: face indices ascending, with multiplicity -/
def sliceSpec (faces : List Face) (c : Nat) : List Nat :=
  (List.range faces.length).flatMap fun i => List.replicate (occ faces c i) i

/-- `sliceSpec` with a running start index `k`, for the induction over `faces` in `outer_getElem?` -/
def sliceFrom (c : Nat) : Nat → List Face → List Nat
  | _, [] => []
  | k, f :: fs => List.replicate ((links f).count c) k ++ sliceFrom c (k + 1) fs

theorem mem_links {f : Face} {c : Nat} :
    c ∈ links f ↔ c = f.left ∨ (f.shifted = false ∧ f.right = some c) := by
  unfold links
  split
  · next r hr hs =>
    simp only [List.mem_cons, List.not_mem_nil, or_false, hr, hs, true_and, Option.some.injEq]
    exact or_congr_right eq_comm
  · next h =>
    rw [List.mem_singleton]
    exact (or_iff_left fun ⟨hs, hr⟩ => h c hr hs).symm

theorem sliceFrom_eq (c : Nat) (k : Nat) (faces : List Face) :
    sliceFrom c k faces =
      (List.range faces.length).flatMap fun i => List.replicate (occ faces c i) (k + i) := by
  induction faces generalizing k with
  | nil => simp [sliceFrom]
  | cons f fs ih =>
    simp only [sliceFrom, List.length_cons, List.range_succ_eq_map, List.flatMap_cons,
      List.flatMap_map, ih]
    congr 1
    apply List.flatMap_congr
    intro i _
    simp [occ, Nat.add_assoc, Nat.add_comm 1 i]

theorem sliceFrom_zero (c : Nat) (faces : List Face) : sliceFrom c 0 faces = sliceSpec faces c := by
  simp [sliceFrom_eq, sliceSpec]

/-! The fold of `finalize`, pointwise at `[d]?`: one push, the pushes of one face, all faces. -/

theorem pushAt_getElem? (acc : List (List Nat)) (c i d : Nat) :
    (pushAt acc c i)[d]? = acc[d]?.map (fun l => if c = d then l ++ [i] else l) := by
  simp [pushAt, List.getElem?_modify]

theorem inner_getElem? (ls : List Nat) (acc : List (List Nat)) (i d : Nat) :
    (ls.foldl (fun a c => pushAt a c i) acc)[d]? =
      acc[d]?.map (fun l => l ++ List.replicate (ls.count d) i) := by
  induction ls generalizing acc with
  | nil => simp
  | cons x xs ih =>
    simp only [List.foldl_cons, ih, pushAt_getElem?]
    cases acc[d]? with
    | none => simp
    | some l =>
      by_cases h : x = d
      · subst h
        simp [List.replicate_succ]
      · simp [h]

theorem outer_getElem? (faces : List Face) (k : Nat) (acc : List (List Nat)) (d : Nat) :
    ((enumFrom k faces).foldl
        (fun acc (p : Nat × Face) => (links p.2).foldl (fun a c => pushAt a c p.1) acc) acc)[d]? =
      acc[d]?.map (fun l => l ++ sliceFrom d k faces) := by
  induction faces generalizing k acc with
  | nil => simp [enumFrom, sliceFrom]
  | cons f fs ih =>
    simp only [enumFrom, List.foldl_cons, ih, inner_getElem?, sliceFrom]
    cases acc[d]? <;> simp

/-- the `finalize` loop computes, for every cell, its slice -/
theorem connLists_eq (n : Nat) (faces : List Face) :
    connLists n faces = (List.range n).map (sliceSpec faces) := by
  apply List.ext_getElem?
  intro d
  have := outer_getElem? faces 0 (List.replicate n []) d
  unfold connLists
  rw [this]
  by_cases h : d < n <;> simp [h, sliceFrom_zero]

theorem connLists_length (n : Nat) (faces : List Face) : (connLists n faces).length = n := by
  simp [connLists_eq]

theorem offsets_length (k : Nat) (ls : List (List Nat)) : (offsets k ls).length = ls.length := by
  induction ls generalizing k with
  | nil => simp [offsets]
  | cons l ls ih => simp [offsets, ih]

theorem offsets_getElem? (k : Nat) (ls : List (List Nat)) (c : Nat) :
    (offsets k ls)[c]? =
      ls[c]?.map (fun l => (k + ((ls.take c).map List.length).sum, l.length)) := by
  induction ls generalizing k c with
  | nil => simp [offsets]
  | cons l ls ih =>
    cases c with
    | zero => simp [offsets]
    | succ c =>
      simp only [offsets, List.getElem?_cons_succ, ih, List.take_succ_cons, List.map_cons,
        List.sum_cons, Nat.add_assoc]

/-! ## T12.1 `finalize` is a consistent index structure -/

section
variable (cells : List (Nat × Bool)) (faces : List Face)

theorem finalize_cells_getElem? (c : Nat) :
    (finalize cells faces).cells[c]? =
      cells[c]?.map (fun p =>
        ⟨p.1, p.2, ((List.range c).map fun d => (sliceSpec faces d).length).sum,
          (sliceSpec faces c).length⟩) := by
  simp only [finalize, List.getElem?_map, connLists_eq]
  rw [List.zip, List.getElem?_zipWith', offsets_getElem?]
  by_cases h : c < cells.length
  · simp [h, ← List.map_take, List.take_range, Nat.min_eq_left (Nat.le_of_lt h)]
    rfl
  · simp [List.getElem?_eq_none (Nat.le_of_not_lt h)]

theorem finalize_faces : (finalize cells faces).faces = faces := rfl

theorem finalize_conn :
    (finalize cells faces).conn = ((List.range cells.length).map (sliceSpec faces)).flatten := by
  simp [finalize, connLists_eq]

theorem cells_length : (finalize cells faces).cells.length = cells.length := by
  simp [finalize, offsets_length, connLists_length]

theorem cells_map_count :
    (finalize cells faces).cells.map (·.count) =
      (List.range cells.length).map (fun d => (sliceSpec faces d).length) := by
  apply List.ext_getElem?
  intro c
  rw [List.getElem?_map, finalize_cells_getElem?]
  by_cases h : c < cells.length <;> simp [h]

end

theorem cells_getElem {cells : List (Nat × Bool)} {faces : List Face} {c : Nat}
    (h : c < (finalize cells faces).cells.length) :
    (finalize cells faces).cells[c] =
      ⟨(cells[c]'(by simpa [cells_length] using h)).1, (cells[c]'(by simpa [cells_length] using h)).2,
        ((List.range c).map fun d => (sliceSpec faces d).length).sum, (sliceSpec faces c).length⟩ := by
  have hc : c < cells.length := by simpa [cells_length] using h
  have := finalize_cells_getElem? cells faces c
  rw [List.getElem?_eq_getElem h, List.getElem?_eq_getElem hc] at this
  simpa using this

theorem sliceFrom_length (c k : Nat) (faces : List Face) :
    (sliceFrom c k faces).length = (faces.map fun f => (links f).count c).sum := by
  induction faces generalizing k with
  | nil => rfl
  | cons f fs ih => simp [sliceFrom, ih]

theorem WF_links {n : Nat} {faces : List Face} (h : WF n faces) :
    ∀ f ∈ faces, ∀ c ∈ links f, c < n := by
  intro f hf c hc
  rcases mem_links.1 hc with rfl | ⟨_, hr⟩
  · exact (h f hf).1
  · exact (h f hf).2 c hr

/-- T12.1(a): every face is counted once by each cell it is linked to -/
theorem conn_length (cells : List (Nat × Bool)) (faces : List Face) (h : WF cells.length faces) :
    (finalize cells faces).conn.length = (faces.map fun f => (links f).length).sum := by
  rw [finalize_conn, List.length_flatten, List.map_map]
  simp only [Function.comp_def, ← sliceFrom_zero, sliceFrom_length]
  rw [sum_range_sum_comm]
  exact congrArg List.sum (List.map_congr_left fun f hf => sum_range_count _ _ (WF_links h f hf))

/-- T12.1(b): offsets are the prefix sums of the counts, the counts add up to the length of `conn`.  No hypothesis on
the faces. -/
theorem offsets_prefix (cells : List (Nat × Bool)) (faces : List Face) :
    let v := finalize cells faces
    v.cells.length = cells.length ∧
    (∀ c (h : c < v.cells.length) (hc : c < cells.length),
        v.cells[c].idx = cells[c].1 ∧ v.cells[c].constructed = cells[c].2 ∧
        v.cells[c].offset = ((v.cells.take c).map (·.count)).sum ∧
        v.cells[c].offset + v.cells[c].count ≤ v.conn.length) ∧
    (v.cells.map (·.count)).sum = v.conn.length := by
  intro v
  have hlen : v.cells.length = cells.length := cells_length cells faces
  have htot : (v.cells.map (·.count)).sum = v.conn.length := by
    simp only [v, cells_map_count, finalize_conn, List.length_flatten, List.map_map]
    rfl
  refine ⟨hlen, ?_, htot⟩
  intro c h hc
  have hoff : v.cells[c].offset = ((v.cells.take c).map (·.count)).sum := by
    rw [cells_getElem h, List.map_take, cells_map_count, ← List.map_take,
      List.take_range, Nat.min_eq_left (Nat.le_of_lt hc)]
  refine ⟨by rw [cells_getElem h], by rw [cells_getElem h], hoff, ?_⟩
  rw [hoff, ← htot]
  have : v.cells = v.cells.take c ++ v.cells[c] :: v.cells.drop (c + 1) := by
    simp
  conv => rhs; rw [this]
  simp only [List.map_append, List.map_cons, List.sum_append, List.sum_cons]
  omega

/-- T12.1(b), last cell -/
theorem last_offset_count (cells : List (Nat × Bool)) (faces : List Face) (c : Nat)
    (h : c < (finalize cells faces).cells.length) (hlast : c + 1 = cells.length) :
    (finalize cells faces).cells[c].offset + (finalize cells faces).cells[c].count =
      (finalize cells faces).conn.length := by
  rw [cells_getElem h, finalize_conn, List.length_flatten, List.map_map,
    show List.range cells.length = List.range (c + 1) by rw [hlast], List.range_succ]
  simp [Function.comp_def]

/-- Mathlib's `List.drop_sum_flatten` comes with the algebraic classes (head of this file) -/
theorem drop_sum_flatten (ls : List (List Nat)) (c : Nat) :
    ls.flatten.drop ((ls.take c).map List.length).sum = (ls.drop c).flatten := by
  induction ls generalizing c with
  | nil => simp
  | cons l ls ih =>
    cases c with
    | zero => simp
    | succ c =>
      simp only [List.take_succ_cons, List.map_cons, List.sum_cons, List.flatten_cons,
        List.drop_succ_cons, ← ih]
      rw [List.drop_append]
      simp

theorem take_drop_flatten (ls : List (List Nat)) (c : Nat) (h : c < ls.length) :
    ((ls.flatten.drop ((ls.take c).map List.length).sum).take ls[c].length) = ls[c] := by
  rw [drop_sum_flatten, List.drop_eq_getElem_cons h, List.flatten_cons, List.take_left']
  rfl

/-- T12.1(c).  No hypothesis on the faces. -/
theorem faceIndices_spec (cells : List (Nat × Bool)) (faces : List Face) (c : Nat)
    (h : c < (finalize cells faces).cells.length) :
    faceIndices (finalize cells faces) (finalize cells faces).cells[c] = sliceSpec faces c := by
  have hc : c < cells.length := by simpa [cells_length] using h
  rw [cells_getElem h]
  simp only [faceIndices, finalize_conn]
  have := take_drop_flatten ((List.range cells.length).map (sliceSpec faces)) c (by simpa using hc)
  simp only [List.getElem_map, List.getElem_range, ← List.map_take, List.take_range,
    Nat.min_eq_left (Nat.le_of_lt hc), List.map_map] at this
  exact this

theorem mem_sliceSpec {faces : List Face} {c i : Nat} :
    i ∈ sliceSpec faces c ↔ ∃ f, faces[i]? = some f ∧ c ∈ links f := by
  simp only [sliceSpec, List.mem_flatMap, List.mem_range, List.mem_replicate, occ]
  constructor
  · rintro ⟨a, ha, hne, rfl⟩
    rw [List.getElem?_eq_getElem ha] at hne ⊢
    exact ⟨_, rfl, List.count_pos_iff.1 (Nat.pos_of_ne_zero hne)⟩
  · rintro ⟨f, hf, hc⟩
    have hi : i < faces.length := (List.getElem?_eq_some_iff.1 hf).1
    refine ⟨i, hi, ?_, rfl⟩
    rw [hf]
    exact Nat.ne_of_gt (List.count_pos_iff.2 hc)

/-- T12.1(c), membership form -/
theorem faceIndices_mem' (cells : List (Nat × Bool)) (faces : List Face) (c : Nat)
    (h : c < (finalize cells faces).cells.length) (i : Nat) (f : Face) (hf : faces[i]? = some f) :
    i ∈ faceIndices (finalize cells faces) (finalize cells faces).cells[c] ↔
      c = f.left ∨ (f.shifted = false ∧ f.right = some c) := by
  rw [faceIndices_spec cells faces c h, mem_sliceSpec, ← mem_links]
  simp [hf]

/-! ## T12.2 `neighbourIds` -/

/-- the neighbour reported for face index `i` when asked from cell `c` -/
def nbrOf (faces : List Face) (c i : Nat) : Option Nat :=
  match faces[i]? with
  | some f =>
    match f.right, f.shifted with
    | some r, false => some (if f.left = c then r else f.left)
    | _, _ => none
  | none => none

/-- T12.2, list form -/
theorem neighbourIds_spec (cells : List (Nat × Bool)) (faces : List Face) (c : Nat)
    (h : c < (finalize cells faces).cells.length)
    (hidx : (finalize cells faces).cells[c].idx = c) :
    neighbourIds (finalize cells faces) (finalize cells faces).cells[c] =
      (faceIndices (finalize cells faces) (finalize cells faces).cells[c]).filterMap
        (nbrOf faces c) := by
  unfold neighbourIds
  rw [hidx, finalize_faces]
  congr 1
  funext i
  unfold nbrOf
  cases faces[i]? with
  | none => rfl
  | some f =>
    rcases hr : f.right with _ | r <;> rcases hs : f.shifted with _ | _ <;> simp [hr, hs]

def NoSelf (faces : List Face) : Prop :=
  ∀ f ∈ faces, f.shifted = false → f.right ≠ some f.left

/-- among the unshifted faces with a right generator, the unordered pair of generators determines the face index -/
def PairUnique (faces : List Face) : Prop :=
  ∀ (i j : Nat) (f g : Face) (r s : Nat), faces[i]? = some f → faces[j]? = some g →
    f.shifted = false → g.shifted = false → f.right = some r → g.right = some s →
    ((f.left = g.left ∧ r = s) ∨ (f.left = s ∧ r = g.left)) → i = j

theorem links_nodup {f : Face} (h : f.shifted = false → f.right ≠ some f.left) : (links f).Nodup := by
  unfold links
  split
  · next r hr hs => simpa using fun e => h hs (by rw [hr, e])
  · simp

theorem occ_le_one {faces : List Face} (h1 : NoSelf faces) (c i : Nat) : occ faces c i ≤ 1 := by
  unfold occ
  split
  · next f hf => exact List.nodup_iff_count_le_one.1 (links_nodup (h1 f (List.mem_of_getElem? hf))) c
  · omega

theorem sliceSpec_nodup {faces : List Face} (h1 : NoSelf faces) (c : Nat) :
    (sliceSpec faces c).Nodup := by
  refine List.nodup_flatMap.2 ⟨fun i _ => List.nodup_replicate.2 (occ_le_one h1 c i),
    List.nodup_range.imp fun hab => List.disjoint_left.2 fun x hx hy => hab ?_⟩
  rw [← List.eq_of_mem_replicate hx, List.eq_of_mem_replicate hy]

theorem nbrOf_eq_some {faces : List Face} {c i x : Nat} :
    nbrOf faces c i = some x ↔
      ∃ f r, faces[i]? = some f ∧ f.shifted = false ∧ f.right = some r ∧
        (if f.left = c then r else f.left) = x := by
  unfold nbrOf
  cases faces[i]? with
  | none => simp
  | some f => rcases hr : f.right with _ | r <;> rcases hs : f.shifted with _ | _ <;> simp [hr, hs]

theorem nbrOf_slice_iff {faces : List Face} {c i x : Nat} :
    i ∈ sliceSpec faces c ∧ nbrOf faces c i = some x ↔
      ∃ f, faces[i]? = some f ∧ f.shifted = false ∧
        ((f.left = c ∧ f.right = some x) ∨ (f.left = x ∧ f.right = some c)) := by
  rw [mem_sliceSpec, nbrOf]
  cases faces[i]? with
  | none => simp
  | some f =>
    simp only [Option.some.injEq, exists_eq_left', mem_links]
    rcases hr : f.right with _ | r <;> rcases hs : f.shifted with _ | _ <;> simp
    -- unshifted with right generator `r`: `c` is one of `f.left`, `r`, and `x` is reported as the other one
    grind

/-- T12.2: the neighbour list of cell `c` omits `c`, has no duplicates, and holds `x` iff some unshifted face has the
generator pair `{c, x}`. -/
theorem neighbourIds_props (cells : List (Nat × Bool)) (faces : List Face) (c : Nat)
    (h : c < (finalize cells faces).cells.length)
    (hidx : (finalize cells faces).cells[c].idx = c)
    (h1 : NoSelf faces) (h2 : PairUnique faces) :
    let N := neighbourIds (finalize cells faces) (finalize cells faces).cells[c]
    c ∉ N ∧ N.Nodup ∧
    ∀ x, x ∈ N ↔ ∃ f ∈ faces, f.shifted = false ∧
        ((f.left = c ∧ f.right = some x) ∨ (f.left = x ∧ f.right = some c)) := by
  intro N
  have hN : N = (sliceSpec faces c).filterMap (nbrOf faces c) := by
    simp only [N]
    rw [neighbourIds_spec cells faces c h hidx, faceIndices_spec cells faces c h]
  have mem : ∀ x, x ∈ N ↔ ∃ f ∈ faces, f.shifted = false ∧
      ((f.left = c ∧ f.right = some x) ∨ (f.left = x ∧ f.right = some c)) := fun x => by
    rw [hN, List.mem_filterMap]
    simp only [nbrOf_slice_iff]
    exact ⟨fun ⟨i, f, hf, hP⟩ => ⟨f, List.mem_of_getElem? hf, hP⟩,
      fun ⟨f, hf, hP⟩ => (List.mem_iff_getElem?.1 hf).imp fun i hi => ⟨f, hi, hP⟩⟩
  refine ⟨fun hc => ?_, ?_, mem⟩
  · obtain ⟨f, hf, hs, ⟨hl, hr⟩ | ⟨hl, hr⟩⟩ := (mem c).1 hc <;> exact h1 f hf hs (hl ▸ hr)
  · -- two entries `x` at slice indices `i ≠ j` come from two faces with the generator pair `{c, x}`: `h2`
    rw [hN]
    refine (List.Pairwise.and_mem.1 (sliceSpec_nodup h1 c)).filterMap _ ?_
    rintro i j ⟨hi, hj, hne⟩ x hxi _ hxj rfl
    obtain ⟨f, hf, hfs, hfc⟩ := nbrOf_slice_iff.1 ⟨hi, hxi⟩
    obtain ⟨g, hg, hgs, hgc⟩ := nbrOf_slice_iff.1 ⟨hj, hxj⟩
    refine hne ?_
    rcases hfc with ⟨fl, fr⟩ | ⟨fl, fr⟩ <;> rcases hgc with ⟨gl, gr⟩ | ⟨gl, gr⟩
    · exact h2 i j f g _ _ hf hg hfs hgs fr gr (Or.inl ⟨fl.trans gl.symm, rfl⟩)
    · exact h2 i j f g _ _ hf hg hfs hgs fr gr (Or.inr ⟨fl, gl.symm⟩)
    · exact h2 i j f g _ _ hf hg hfs hgs fr gr (Or.inr ⟨fl, gl.symm⟩)
    · exact h2 i j f g _ _ hf hg hfs hgs fr gr (Or.inl ⟨fl.trans gl.symm, rfl⟩)

/-! ## T03.2 the storage rule: an interior face is stored by exactly one side, a periodic or wall face always -/

/-- an interior plane: towards generator `j`, unshifted, valid -/
theorem shouldConstruct_interior (i j : Nat) (mask : Option (List Bool)) (t : Bool) :
    shouldConstruct i mask ⟨some j, false, true, t⟩ = (decide (i < j) || maskedOut mask j) := rfl

theorem maskedOut_some (m : List Bool) (r : Nat) (hr : r < m.length) : maskedOut (some m) r = !m[r] := by
  simp [maskedOut, List.getD_eq_getElem?_getD, List.getElem?_eq_getElem hr]

theorem storage_both_active (m : List Bool) (i j : Nat) (hj : j < m.length) (mj : m[j] = true) :
    shouldConstruct i (some m) ⟨some j, false, true, true⟩ = true ↔ i < j := by
  simp [shouldConstruct_interior, maskedOut_some m j hj, mj]

theorem storage_no_mask (i j : Nat) :
    shouldConstruct i none ⟨some j, false, true, true⟩ = true ↔ i < j := by
  simp [shouldConstruct_interior, maskedOut]

theorem storage_exactly_one_of_active (mask : Option (List Bool)) (i j : Nat) (hij : i ≠ j)
    (hi : maskedOut mask i = false) (hj : maskedOut mask j = false) :
    (shouldConstruct i mask ⟨some j, false, true, true⟩ ^^
      shouldConstruct j mask ⟨some i, false, true, true⟩) = true := by
  rw [shouldConstruct_interior, shouldConstruct_interior, hi, hj]
  rcases Nat.lt_or_gt_of_ne hij with h | h <;> simp [h, Nat.lt_asymm h]

theorem storage_exactly_one (m : List Bool) (i j : Nat) (hij : i ≠ j)
    (hi : i < m.length) (hj : j < m.length) (mi : m[i] = true) (mj : m[j] = true) :
    (shouldConstruct i (some m) ⟨some j, false, true, true⟩ ^^
      shouldConstruct j (some m) ⟨some i, false, true, true⟩) = true :=
  storage_exactly_one_of_active _ i j hij (by simp [maskedOut_some m i hi, mi]) (by simp [maskedOut_some m j hj, mj])

theorem storage_exactly_one_no_mask (i j : Nat) (hij : i ≠ j) :
    (shouldConstruct i none ⟨some j, false, true, true⟩ ^^
      shouldConstruct j none ⟨some i, false, true, true⟩) = true :=
  storage_exactly_one_of_active none i j hij rfl rfl

theorem storage_active_inactive (m : List Bool) (i j : Nat) (hj : j < m.length) (mj : m[j] = false) :
    shouldConstruct i (some m) ⟨some j, false, true, true⟩ = true := by
  simp [shouldConstruct_interior, maskedOut_some m j hj, mj]

theorem storage_shifted_or_wall (i : Nat) (mask : Option (List Bool)) (p : PlaneInfo)
    (hv : p.valid = true) (h : p.shifted = true ∨ p.right = none) :
    shouldConstruct i mask p = true := by
  unfold shouldConstruct
  rcases p with ⟨right, shifted, valid, hasTet⟩
  simp only at hv h
  subst hv
  rcases h with rfl | rfl
  · cases right <;> rfl
  · rfl

theorem invalid_never (i : Nat) (mask : Option (List Bool)) (p : PlaneInfo) (hv : p.valid = false) :
    shouldConstruct i mask p = false := by
  simp [shouldConstruct, hv]

/-! ## T03.3 pairwise exchange over the stored faces is conservative -/

/-- what `f` contributes to cell `c` when every stored face adds `φ f` to its left cell and subtracts it from its right
cell, if linked there -/
def contrib (φ : Face → Int) (f : Face) (c : Nat) : Int :=
  (if f.left = c then φ f else 0) -
    (match f.right, f.shifted with
      | some r, false => if r = c then φ f else 0
      | _, _ => 0)

def netFlux (φ : Face → Int) (faces : List Face) (c : Nat) : Int :=
  (faces.map fun f => contrib φ f c).sum

theorem sum_contrib (φ : Face → Int) (n : Nat) (f : Face)
    (hl : f.left < n) (hr : ∀ r, f.right = some r → r < n) :
    ((List.range n).map (contrib φ f)).sum = if f.shifted || f.right.isNone then φ f else 0 := by
  unfold contrib
  rw [sum_map_sub, sum_range_ite, if_pos hl]
  rcases hR : f.right with _ | r <;> rcases hS : f.shifted with _ | _
  case some.false =>
    -- linked on both sides: `φ f` is added once and subtracted once
    rw [sum_range_ite, if_pos (hr r hR)]
    simp
  all_goals simp
/-- T03.3: summed over all cells, the exchanges through interior faces cancel; wall and periodic faces remain. -/
theorem flux_cancels (φ : Face → Int) (n : Nat) (faces : List Face) (h : WF n faces) :
    ((List.range n).map (netFlux φ faces)).sum =
      ((faces.filter fun f => f.shifted || f.right.isNone).map φ).sum := by
  unfold netFlux
  rw [sum_range_sum_comm, List.map_congr_left fun f hf => sum_contrib φ n f (h f hf).1 (h f hf).2,
    sum_map_ite_zero]

/-! ## T13.1 the two routes agree -/

theorem cellFaces_allTrue (n : Nat) (c : CellInfo) :
    cellFaces (some (List.replicate n true)) c = cellFaces none c := by
  have h : ∀ r, maskedOut (some (List.replicate n true)) r = maskedOut none r := fun r => by
    simp only [maskedOut, List.getD_eq_getElem?_getD, List.getElem?_replicate]
    split <;> rfl
  unfold cellFaces shouldConstruct
  simp only [h]

/-- T13.1.  No hypothesis `m.length = n`: the model reads masks with `getD`. -/
theorem routes_equal (u : Nat → Nat) (n : Nat) (cellOf : Nat → CellInfo) (mask : Option (List Bool)) :
    buildViaIntegrator u n cellOf mask = build u n cellOf mask := by
  cases mask with
  | some m => rfl
  | none =>
    -- the integrator's all-true mask is active at every `i < n` and masks no right generator out
    have hact : ∀ i ∈ List.range n, (List.replicate n true).getD i false = true := fun i hi => by
      simp [List.getD_eq_getElem?_getD, List.mem_range.1 hi]
    show finalize _ _ = finalize _ _
    congr 1
    · refine List.map_congr_left fun i hi => ?_
      rw [if_pos (hact i hi)]
      rfl
    · refine congrArg _ (List.map_congr_left fun i hi => ?_)
      rw [if_pos (hact i hi), cellFaces_allTrue]
      rfl

/-! ## T13.3 symmetric integrals = filtered non-symmetric ones; stored faces = symmetric ones -/

theorem enumFrom_eq_zip {α} (k : Nat) (l : List α) : enumFrom k l = (List.range' k l.length).zip l := by
  induction l generalizing k with
  | nil => rfl
  | cons x xs ih => rw [enumFrom, ih, List.length_cons, List.range'_succ, List.zip_cons_cons]

theorem mem_enumFrom {α} {l : List α} {k i : Nat} {a : α} (h : (i, a) ∈ enumFrom k l) : a ∈ l :=
  (List.of_mem_zip (enumFrom_eq_zip k l ▸ h)).2

theorem left_of_mem {idx : Nat} {l : List (Nat × PlaneInfo)} {g : Nat × PlaneInfo → Bool} {f : Face}
    (hf : f ∈ l.filterMap fun kp => if g kp then some ⟨idx, kp.2.right, kp.2.shifted, kp.1⟩ else none) :
    f.left = idx := by
  obtain ⟨kp, _, h⟩ := List.mem_filterMap.1 hf
  split at h
  · cases h
    rfl
  · cases h

theorem blocks_congr {α} {n : Nat} {p : Nat → Bool} {F G : Nat → List α} (h : ∀ i, i < n → p i = true → F i = G i) :
    ((List.range n).map fun i => if p i then F i else []).flatten =
      ((List.range n).map fun i => if p i then G i else []).flatten :=
  congrArg List.flatten (List.map_congr_left fun i hi => by
    split
    · next ha => exact h i (List.mem_range.1 hi) ha
    · rfl)

/-- T13.3 for one cell -/
theorem sym_eq_filter (active : List Bool) (c : CellInfo) :
    cellFacesSym active c = (cellFacesNonSym c).filter (fun f => !symSkip c.idx active f) := by
  rw [cellFacesNonSym, List.filter_filterMap]
  refine List.filterMap_congr fun kp _ => ?_
  by_cases h : (kp.2.hasTet && kp.2.valid) = true <;> simp [h, Option.filter]

theorem cellFacesNonSym_left (c : CellInfo) : ∀ f ∈ cellFacesNonSym c, f.left = c.idx :=
  fun _ hf => left_of_mem (g := fun kp => kp.2.hasTet && kp.2.valid) hf

/-- T13.3 for the integrator.  No hypothesis on `cellOf`: a face carries the `idx` of its cell as `left`. -/
theorem integrator_sym_eq_filter (n : Nat) (cellOf : Nat → CellInfo) (active : List Bool) :
    integratorFacesSym n cellOf active =
      (integratorFacesNonSym n cellOf active).filter (fun f => !symSkip f.left active f) := by
  unfold integratorFacesSym integratorFacesNonSym
  rw [List.filter_flatten, List.map_map]
  simp only [Function.comp_def, apply_ite (List.filter _), List.filter_nil]
  refine blocks_congr fun i _ _ => ?_
  rw [sym_eq_filter]
  exact List.filter_congr fun f hf => by rw [cellFacesNonSym_left _ f hf]

/-- a plane for which the symmetric rule and the storage rule can be compared -/
def PlaneOK (active : List Bool) (idx : Nat) (p : PlaneInfo) : Prop :=
  p.hasTet = true → p.valid = true → p.shifted = false →
    ∀ r, p.right = some r → r ≠ idx ∧ r < active.length

theorem keep_eq (active : List Bool) (idx k : Nat) (p : PlaneInfo) (h : PlaneOK active idx p) :
    (p.hasTet && shouldConstruct idx (some active) p) =
      (p.hasTet && p.valid && !(symSkip idx active ⟨idx, p.right, p.shifted, k⟩)) := by
  -- `rfl` unless the plane is interior: right generator `r`, unshifted, valid, with a tetrahedron
  rcases p with ⟨_ | r, _ | _, _ | _, _ | _⟩ <;> try rfl
  obtain ⟨hne, hlt⟩ := h rfl rfl rfl r rfl
  -- there the storage rule is `idx < r ∨ r inactive`, the skip rule `r < idx ∧ r active`, and `r ≠ idx`
  rw [shouldConstruct_interior, maskedOut_some active r hlt]
  simp only [symSkip, List.getD_eq_getElem?_getD, List.getElem?_eq_getElem hlt, Option.getD_some, Bool.true_and,
    Bool.not_and]
  congr 1
  rw [← decide_not, decide_eq_decide, Nat.not_lt]
  exact ⟨Nat.le_of_lt, fun h => Nat.lt_of_le_of_ne h hne.symm⟩

/-- T13.3: what `from_convex_cell` stores under a mask is what `compute_face_integrals_sym` produces -/
theorem stored_eq_sym (active : List Bool) (c : CellInfo)
    (h : ∀ p ∈ c.planes, PlaneOK active c.idx p) :
    cellFaces (some active) c = cellFacesSym active c :=
  List.filterMap_congr fun kp hkp => by
    simp only [keep_eq active c.idx kp.1 kp.2 (h _ (mem_enumFrom hkp))]

theorem build_faces (u : Nat → Nat) (n : Nat) (cellOf : Nat → CellInfo) (mask : Option (List Bool)) :
    (build u n cellOf mask).faces =
      ((List.range n).map fun i => if isActive mask i then cellFaces mask (cellOf i) else []).flatten :=
  rfl

/-- T13.3 for `build` -/
theorem build_faces_eq_sym (u : Nat → Nat) (n : Nat) (cellOf : Nat → CellInfo) (active : List Bool)
    (h : ∀ i, i < n → active.getD i false = true →
      ∀ p ∈ (cellOf i).planes, PlaneOK active (cellOf i).idx p) :
    (build u n cellOf (some active)).faces = integratorFacesSym n cellOf active :=
  blocks_congr (p := fun i => active.getD i false) fun i hi ha => stored_eq_sym active (cellOf i) (h i hi ha)

/-! ## T07 faces and cells of `build` versus the mask -/

theorem cellFaces_left (mask : Option (List Bool)) (c : CellInfo) :
    ∀ f ∈ cellFaces mask c, f.left = c.idx :=
  fun _ hf => left_of_mem (g := fun kp => kp.2.hasTet && shouldConstruct c.idx mask kp.2) hf

/-- T07.2: no stored face has an inactive left generator -/
theorem no_inactive_left (u : Nat → Nat) (n : Nat) (cellOf : Nat → CellInfo)
    (mask : Option (List Bool)) (hidx : ∀ i, i < n → (cellOf i).idx = i) :
    ∀ f ∈ (build u n cellOf mask).faces, isActive mask f.left = true ∧ f.left < n := by
  intro f hf
  rw [build_faces, List.mem_flatten] at hf
  obtain ⟨l, hl, hfl⟩ := hf
  obtain ⟨i, hi, rfl⟩ := List.mem_map.1 hl
  have hi' : i < n := List.mem_range.1 hi
  by_cases ha : isActive mask i = true
  · rw [if_pos ha] at hfl
    rw [cellFaces_left mask _ f hfl, hidx i hi']
    exact ⟨ha, hi'⟩
  · rw [if_neg ha] at hfl
    cases hfl

theorem flatten_range_ite {α} (n i : Nat) (Y : List α) :
    ((List.range n).map fun j => if j = i then Y else []).flatten = if i < n then Y else [] := by
  induction n with
  | zero => rfl
  | succ n ih =>
    rw [List.range_succ, List.map_append, List.flatten_append, ih, List.map_singleton, List.flatten_singleton]
    rcases Nat.lt_trichotomy i n with h | rfl | h
    · rw [if_pos h, if_neg (Nat.ne_of_gt h), if_pos (Nat.lt_succ_of_lt h), List.append_nil]
    · rw [if_neg (Nat.lt_irrefl _), if_pos rfl, if_pos (Nat.lt_succ_self _), List.nil_append]
    · rw [if_neg (Nat.lt_asymm h), if_neg (Nat.ne_of_lt h), if_neg (by omega), List.append_nil]

theorem filter_left {l : List Face} {j : Nat} (h : ∀ f ∈ l, f.left = j) (i : Nat) :
    l.filter (fun f => f.left == i) = if j = i then l else [] := by
  split
  · next e => exact List.filter_eq_self.2 fun f hf => by simp [h f hf, e]
  · next e => exact List.filter_eq_nil_iff.2 fun f hf => by simp [h f hf, e]

/-- T07.2: the faces with left generator `i` are, in order, those the cell of an active `i` stores -/
theorem faces_of_active (u : Nat → Nat) (n : Nat) (cellOf : Nat → CellInfo)
    (mask : Option (List Bool)) (hidx : ∀ i, i < n → (cellOf i).idx = i) (i : Nat) (hi : i < n) :
    (build u n cellOf mask).faces.filter (fun f => f.left == i) =
      if isActive mask i then cellFaces mask (cellOf i) else [] := by
  -- every face of block `j` has `left = j`, so the filter keeps block `i` whole and empties the others
  have hb : ∀ j ∈ List.range n, ∀ f ∈ (if isActive mask j then cellFaces mask (cellOf j) else []),
      f.left = j := by
    intro j hj f hf
    split at hf
    · rw [cellFaces_left mask _ f hf, hidx j (List.mem_range.1 hj)]
    · cases hf
  rw [build_faces, List.filter_flatten, List.map_map]
  refine (congrArg List.flatten (List.map_congr_left fun j hj => ?_)).trans
    ((flatten_range_ite n i _).trans (if_pos hi))
  show List.filter _ _ = _
  rw [filter_left (hb j hj) i]
  split
  · next e => rw [e]
  · rfl
/-- T07.1: the record of an active `i` does not depend on the rest of the mask; that of an inactive `i` is `(u i, false)` -/
theorem cell_indep_of_mask (u : Nat → Nat) (n : Nat) (cellOf : Nat → CellInfo)
    (mask : Option (List Bool)) (i : Nat) (hi : i < n) :
    ∃ vc, (build u n cellOf mask).cells[i]? = some vc ∧
      (isActive mask i = true → vc.idx = (cellOf i).idx ∧ vc.constructed = true) ∧
      (isActive mask i = false → vc.idx = u i ∧ vc.constructed = false) := by
  unfold build
  simp only [finalize_cells_getElem?, List.getElem?_map, List.getElem?_range hi, Option.map_some]
  refine ⟨_, rfl, ?_, ?_⟩
  · intro ha
    simp [ha]
  · intro ha
    simp [ha]

theorem build_cells_length (u : Nat → Nat) (n : Nat) (cellOf : Nat → CellInfo)
    (mask : Option (List Bool)) : (build u n cellOf mask).cells.length = n := by
  unfold build
  simp [cells_length]

/-! ## T14.4 `zipData` -/

theorem range'_zip {D} (k n : Nat) (data : List D) :
    (List.range' k n).zip data = (List.range' k n).filterMap fun i => data[i - k]?.map fun d => (i, d) := by
  induction n generalizing k data with
  | zero => rfl
  | succ n ih =>
    cases data with
    | nil => simp
    | cons d ds =>
      rw [List.range'_succ, List.zip_cons_cons, ih, List.filterMap_cons, Nat.sub_self, List.getElem?_cons_zero]
      refine congrArg _ (List.filterMap_congr fun i hi => ?_)
      have : k + 1 ≤ i := (List.mem_range'_1.1 hi).1
      rw [show i - k = i - (k + 1) + 1 by omega, List.getElem?_cons_succ]

/-- T14.4.  No length hypothesis: indices beyond `data` are dropped, as `zip` does. -/
theorem zipData_spec {D} (n : Nat) (active : List Bool) (data : List D) :
    zipData n active data =
      (List.range n).filterMap
        (fun i => if active.getD i false then data[i]?.map (fun d => (i, d)) else none) := by
  rw [zipData, List.range_eq_range', range'_zip, List.filterMap_filterMap]
  refine List.filterMap_congr fun i _ => ?_
  cases data[i]? <;> simp

theorem zipData_mem {D} (n : Nat) (active : List Bool) (data : List D) (i : Nat) (d : D) :
    (i, d) ∈ zipData n active data ↔ i < n ∧ active.getD i false = true ∧ data[i]? = some d := by
  simp only [zipData_spec, List.mem_filterMap, List.mem_range, Option.ite_none_right_eq_some, Option.map_eq_some_iff,
    Prod.mk.injEq]
  exact ⟨fun ⟨j, hj, ha, d', hd, e1, e2⟩ => e1 ▸ e2 ▸ ⟨hj, ha, hd⟩,
    fun ⟨hi, ha, hd⟩ => ⟨i, hi, ha, d, hd, rfl, rfl⟩⟩

theorem zipData_fst {D} (n : Nat) (active : List Bool) (data : List D) (h : n ≤ data.length) :
    (zipData n active data).map Prod.fst = (List.range n).filter (fun i => active.getD i false) := by
  rw [zipData_spec, List.map_filterMap, ← List.filterMap_eq_filter]
  apply List.filterMap_congr
  intro i hi
  have : i < data.length := Nat.lt_of_lt_of_le (List.mem_range.1 hi) h
  simp only [Option.guard]
  split <;> simp [*]

theorem count_active (active : List Bool) :
    ((List.range active.length).filter (fun i => active.getD i false)).length = active.count true := by
  conv_rhs => rw [show active = (List.range active.length).map (fun i => active.getD i false) from
    List.ext_getElem (by simp) fun i h _ => by
      simp [List.getD_eq_getElem?_getD, List.getElem?_eq_getElem (by simpa using h)]]
  rw [List.count, List.countP_map, List.countP_eq_length_filter]
  exact congrArg _ (List.filter_congr fun i _ => by simp)

/-- T14.4: as many pairs as there are active cells -/
theorem zipData_length {D} (n : Nat) (active : List Bool) (data : List D)
    (hd : data.length = n) (ha : active.length = n) :
    (zipData n active data).length = active.count true := by
  rw [← count_active, ha, ← zipData_fst n active data (Nat.le_of_eq hd.symm), List.length_map]

def rowCell : Nat → CellInfo
  | 0 => ⟨0, [⟨none, false, true, true⟩, ⟨some 1, false, true, true⟩]⟩
  | 1 => ⟨1, [⟨some 0, false, true, true⟩, ⟨some 2, false, true, true⟩]⟩
  | _ => ⟨2, [⟨some 1, false, true, true⟩, ⟨none, false, true, true⟩]⟩

example :
    let v := build (fun _ => 0) 3 rowCell none
    v.cells.map (neighbourIds v) = [[1], [0, 2], [1]] := by decide

/-- defect witness (C12): unconstructed cells carry `idx = 0` as `VoronoiCell::default()` does, and the cell at
position 1 reports itself as neighbour -/
example :
    let v := build (fun _ => 0) 3 rowCell (some [true, false, false])
    v.cells.map (neighbourIds v) = [[1], [1], []] := by decide

/-- with `idx = position` for unconstructed cells it does not -/
example :
    let v := build id 3 rowCell (some [true, false, false])
    v.cells.map (neighbourIds v) = [[1], [0], []] := by decide

end MVoro.TessBook

#print axioms MVoro.TessBook.connLists_eq
#print axioms MVoro.TessBook.conn_length
#print axioms MVoro.TessBook.offsets_prefix
#print axioms MVoro.TessBook.last_offset_count
#print axioms MVoro.TessBook.cells_getElem
#print axioms MVoro.TessBook.faceIndices_spec
#print axioms MVoro.TessBook.faceIndices_mem'
#print axioms MVoro.TessBook.neighbourIds_spec
#print axioms MVoro.TessBook.neighbourIds_props
#print axioms MVoro.TessBook.routes_equal
#print axioms MVoro.TessBook.sym_eq_filter
#print axioms MVoro.TessBook.integrator_sym_eq_filter
#print axioms MVoro.TessBook.stored_eq_sym
#print axioms MVoro.TessBook.build_faces_eq_sym
#print axioms MVoro.TessBook.storage_both_active
#print axioms MVoro.TessBook.storage_no_mask
#print axioms MVoro.TessBook.storage_exactly_one
#print axioms MVoro.TessBook.storage_exactly_one_no_mask
#print axioms MVoro.TessBook.storage_active_inactive
#print axioms MVoro.TessBook.storage_shifted_or_wall
#print axioms MVoro.TessBook.invalid_never
#print axioms MVoro.TessBook.no_inactive_left
#print axioms MVoro.TessBook.faces_of_active
#print axioms MVoro.TessBook.cell_indep_of_mask
#print axioms MVoro.TessBook.zipData_spec
#print axioms MVoro.TessBook.zipData_mem
#print axioms MVoro.TessBook.zipData_fst
#print axioms MVoro.TessBook.zipData_length
#print axioms MVoro.TessBook.flux_cancels
