/-
Periodic boxes, coordinate-wise over `Fin d → ℝ` with the explicit squared distance `dist2`.  T06.1 the 3^d nearest lattice
images and the tripled box suffice (`images27_suffice'`; the sections before it are the steps of the argument), then T06.4,
T06.3, T08.2, T02.3.
-/
import Mathlib.Data.Real.Basic
import Mathlib.Algebra.Order.Ring.Abs
import Mathlib.Algebra.BigOperators.Fin
import Mathlib.Algebra.BigOperators.Pi
import Mathlib.Algebra.Order.BigOperators.Group.Finset
import Mathlib.Data.Fintype.BigOperators
import Mathlib.Data.Fin.VecNotation
import Mathlib.Order.Interval.Set.Basic
import Mathlib.Tactic.Linarith
import Mathlib.Tactic.Ring
import Mathlib.Tactic.NormNum
import Mathlib.Tactic.FinCases

namespace MVoro.Periodic

open Finset

def dist2 {d : ℕ} (x y : Fin d → ℝ) : ℝ := ∑ i, (x i - y i) ^ 2

def image {d : ℕ} (q w : Fin d → ℝ) (k : Fin d → ℤ) : Fin d → ℝ := fun i => q i + k i * w i

@[simp] theorem image_zero {d : ℕ} (q w : Fin d → ℝ) : image q w 0 = q := by
  funext i
  simp [image]

/-! ## One axis: far images are dominated by a nearest image -/

theorem closer_left_iff (p r x : ℝ) (h : p < r) : |x - p| ≤ |x - r| ↔ x ≤ (p + r) / 2 := by
  rw [← sq_le_sq, ← sub_nonneg, show (x - r) ^ 2 - (x - p) ^ 2 = (r - p) * (p + r - 2 * x) by ring,
    mul_nonneg_iff_of_pos_left (sub_pos.2 h), sub_nonneg, le_div_iff₀' (zero_lt_two' ℝ)]

theorem closer_right_iff (p r x : ℝ) (h : p < r) : |x - r| ≤ |x - p| ↔ (p + r) / 2 ≤ x := by
  rw [← sq_le_sq, ← sub_nonneg, show (x - p) ^ 2 - (x - r) ^ 2 = (r - p) * (2 * x - (p + r)) by ring,
    mul_nonneg_iff_of_pos_left (sub_pos.2 h), sub_nonneg, div_le_iff₀' (zero_lt_two' ℝ)]

theorem image_lt_1d {w : ℝ} (hw : 0 < w) (q : ℝ) {k k' : ℤ} (h : k < k') : q + k * w < q + k' * w :=
  (add_lt_add_iff_left q).2 (mul_lt_mul_of_pos_right (Int.cast_lt.2 h) hw)

theorem closer_image_1d (a w x q : ℝ) (k : ℤ) (hw : 0 < w) (hq1 : a ≤ q) (hq2 : q ≤ a + w)
    (hx1 : a - w / 2 ≤ x) (hx2 : x ≤ a + 3 * w / 2) (hk : 2 ≤ |k|) :
    ∃ k' : ℤ, (k' = -1 ∨ k' = 0 ∨ k' = 1) ∧ |x - (q + k' * w)| ≤ |x - (q + k * w)| := by
  rcases le_abs.1 hk with h | h
  · -- `x ≤ q + 3 w / 2`, and that is left of the midpoint of the images `q + w` and `q + k w`
    have hkw : 2 * w ≤ k * w := mul_le_mul_of_nonneg_right (by exact_mod_cast h) hw.le
    refine ⟨1, Or.inr (Or.inr rfl), (closer_left_iff _ _ x (image_lt_1d hw q h)).2 ?_⟩
    rw [Int.cast_one]
    linarith only [hq1, hx2, hkw]
  · have hkw : k * w ≤ -2 * w :=
      mul_le_mul_of_nonneg_right (by exact_mod_cast (by omega : k ≤ -2)) hw.le
    refine ⟨-1, Or.inl rfl, (closer_right_iff _ _ x (image_lt_1d hw q (by omega))).2 ?_⟩
    rw [Int.cast_neg, Int.cast_one]
    linarith only [hq2, hx1, hkw]

theorem clamp_image_1d (a w x q : ℝ) (k : ℤ) (hw : 0 < w) (hq1 : a ≤ q) (hq2 : q ≤ a + w)
    (hx1 : a - w / 2 ≤ x) (hx2 : x ≤ a + 3 * w / 2) :
    ∃ k' : ℤ, (k' = -1 ∨ k' = 0 ∨ k' = 1) ∧ (|k| ≤ 1 → k' = k) ∧
      (x - (q + k' * w)) ^ 2 ≤ (x - (q + k * w)) ^ 2 := by
  by_cases hk : 2 ≤ |k|
  · obtain ⟨k', h1, h2⟩ := closer_image_1d a w x q k hw hq1 hq2 hx1 hx2 hk
    exact ⟨k', h1, fun h => absurd h (by omega), sq_le_sq.2 h2⟩
  · have := abs_le.1 (by omega : |k| ≤ 1)
    exact ⟨k, by omega, fun _ => rfl, le_refl _⟩

/-- box `[0,1]`, generator `1/4`, point `5/4`: the image shifted by `5` widths is beaten by the one shifted by `1` width
(distance `4` versus `0`) -/
example : ∃ k' : ℤ, (k' = -1 ∨ k' = 0 ∨ k' = 1) ∧
    |(5/4 : ℝ) - (1/4 + k' * 1)| ≤ |(5/4 : ℝ) - (1/4 + (5 : ℤ) * 1)| :=
  closer_image_1d 0 1 (5/4) (1/4) 5 (by norm_num) (by norm_num) (by norm_num) (by norm_num)
    (by norm_num) (by decide)

/-! ## All axes at once: a shift can be clamped to `{-1,0,1}^d` -/

theorem clamp_image {d : ℕ} (a w q x : Fin d → ℝ)
    (h : ∀ i, 0 < w i ∧ a i ≤ q i ∧ q i ≤ a i + w i ∧ a i - w i / 2 ≤ x i ∧
      x i ≤ a i + 3 * w i / 2) (k : Fin d → ℤ) :
    ∃ k' : Fin d → ℤ, (∀ i, k' i = -1 ∨ k' i = 0 ∨ k' i = 1) ∧ (∀ i, |k i| ≤ 1 → k' i = k i) ∧
      dist2 x (image q w k') ≤ dist2 x (image q w k) := by
  have H : ∀ i, ∃ k' : ℤ, (k' = -1 ∨ k' = 0 ∨ k' = 1) ∧ (|k i| ≤ 1 → k' = k i) ∧
      (x i - (q i + k' * w i)) ^ 2 ≤ (x i - (q i + k i * w i)) ^ 2 := fun i =>
    clamp_image_1d (a i) (w i) (x i) (q i) (k i) (h i).1 (h i).2.1 (h i).2.2.1 (h i).2.2.2.1
      (h i).2.2.2.2
  choose k' h1 h2 h3 using H
  exact ⟨k', h1, h2, Finset.sum_le_sum fun i _ => h3 i⟩

/-! ## Own images confine the cell to half a width around the generator -/

theorem cell_in_half_width (x g w : ℝ) (hw : 0 < w)
    (h1 : (x - g) ^ 2 ≤ (x - (g + w)) ^ 2) (h2 : (x - g) ^ 2 ≤ (x - (g - w)) ^ 2) :
    |x - g| ≤ w / 2 := by
  have := (closer_left_iff g (g + w) x (lt_add_of_pos_right g hw)).1 (sq_le_sq.1 h1)
  have := (closer_right_iff (g - w) g x (sub_lt_self g hw)).1 (sq_le_sq.1 h2)
  exact abs_le.2 ⟨by linarith, by linarith⟩

theorem dist2_image_single {d : ℕ} (x g w : Fin d → ℝ) (i : Fin d) (c : ℤ) :
    dist2 x (image g w (Pi.single i c)) - dist2 x g =
      (x i - (g i + c * w i)) ^ 2 - (x i - g i) ^ 2 := by
  unfold dist2 image
  rw [← Finset.sum_sub_distrib, Fintype.sum_eq_single i]
  · simp
  · intro j hj
    simp [Pi.single_eq_of_ne hj]

theorem own_images_bound {d : ℕ} (x g w : Fin d → ℝ) (hw : ∀ i, 0 < w i)
    (h : ∀ i, dist2 x g ≤ dist2 x (image g w (Pi.single i 1)) ∧
      dist2 x g ≤ dist2 x (image g w (Pi.single i (-1)))) :
    ∀ i, |x i - g i| ≤ w i / 2 := by
  intro i
  have e1 := dist2_image_single x g w i 1
  have e2 := dist2_image_single x g w i (-1)
  simp only [Int.cast_one, Int.cast_neg, one_mul, neg_one_mul, ← sub_eq_add_neg] at e1 e2
  exact cell_in_half_width (x i) (g i) (w i) (hw i) (by linarith [(h i).1]) (by linarith [(h i).2])

/-! ## T06.1 the 3^d images suffice, and the cell stays strictly inside the tripled box -/

/-- the periodic cell never touches the walls of the tripled box `[a - w, a + 2 w]` -/
theorem cell_in_tripled_box {d : ℕ} (a w g x : Fin d → ℝ) (hw : ∀ i, 0 < w i)
    (hg : ∀ i, a i ≤ g i ∧ g i ≤ a i + w i) (hx : ∀ i, |x i - g i| ≤ w i / 2) :
    ∀ i, a i - w i < x i ∧ x i < a i + 2 * w i :=
  fun i => ⟨by linarith [(abs_le.1 (hx i)).1, (hg i).1, hw i], by linarith [(abs_le.1 (hx i)).2, (hg i).2, hw i]⟩

/-- T06.1 for `x` in the half-width box around `g`; `H` need not cover the pair "`g` itself, zero shift" -/
theorem images27_suffice {d : ℕ} {ι : Type*} (a w g x : Fin d → ℝ) (Q : ι → Fin d → ℝ)
    (hw : ∀ i, 0 < w i) (hg : ∀ i, a i ≤ g i ∧ g i ≤ a i + w i)
    (hQ : ∀ j i, a i ≤ Q j i ∧ Q j i ≤ a i + w i)
    (hx : ∀ i, |x i - g i| ≤ w i / 2)
    (H : ∀ j (k : Fin d → ℤ), (∀ i, k i = -1 ∨ k i = 0 ∨ k i = 1) → ¬ (Q j = g ∧ k = 0) →
      dist2 x g ≤ dist2 x (image (Q j) w k)) :
    ∀ j (k : Fin d → ℤ), dist2 x g ≤ dist2 x (image (Q j) w k) := by
  intro j k
  obtain ⟨k', hk1, -, hk3⟩ := clamp_image a w (Q j) x (fun i => ⟨hw i, (hQ j i).1, (hQ j i).2,
    by linarith [(abs_le.1 (hx i)).1, (hg i).1], by linarith [(abs_le.1 (hx i)).2, (hg i).2]⟩) k
  refine le_trans ?_ hk3
  by_cases triv : Q j = g ∧ k' = 0
  · rw [triv.1, triv.2, image_zero]
  · exact H j k' hk1 triv

/-- T06.1: the hypothesis mentions only the 3^d images with shifts in `{-1,0,1}^d` (own non-zero images included,
`g = Q j₀`); the conclusion covers all lattice images, and the cell is strictly inside the tripled box. -/
theorem images27_suffice' {d : ℕ} {ι : Type*} (a w g x : Fin d → ℝ) (Q : ι → Fin d → ℝ)
    (hw : ∀ i, 0 < w i) (j₀ : ι) (hj₀ : Q j₀ = g)
    (hQ : ∀ j i, a i ≤ Q j i ∧ Q j i ≤ a i + w i)
    (H : ∀ j (k : Fin d → ℤ), (∀ i, k i = -1 ∨ k i = 0 ∨ k i = 1) → ¬ (Q j = g ∧ k = 0) →
      dist2 x g ≤ dist2 x (image (Q j) w k)) :
    (∀ j (k : Fin d → ℤ), dist2 x g ≤ dist2 x (image (Q j) w k)) ∧
      (∀ i, |x i - g i| ≤ w i / 2) ∧ (∀ i, a i - w i < x i ∧ x i < a i + 2 * w i) := by
  subst hj₀
  have single_ok : ∀ (i : Fin d) (c : ℤ), (c = -1 ∨ c = 0 ∨ c = 1) →
      ∀ i', (Pi.single i c : Fin d → ℤ) i' = -1 ∨ (Pi.single i c : Fin d → ℤ) i' = 0 ∨
        (Pi.single i c : Fin d → ℤ) i' = 1 := by
    intro i c hc i'
    rw [Pi.single_apply]
    split
    · exact hc
    · exact Or.inr (Or.inl rfl)
  -- the own images `±w i e_i` are among the 3^d images
  have hx : ∀ i, |x i - Q j₀ i| ≤ w i / 2 := own_images_bound x _ w hw fun i =>
    ⟨H j₀ _ (single_ok i 1 (by simp)) fun hh => by simpa using congrFun hh.2 i,
      H j₀ _ (single_ok i (-1) (by simp)) fun hh => by simpa using congrFun hh.2 i⟩
  exact ⟨images27_suffice a w _ x Q hw (hQ j₀) hQ hx H, hx, cell_in_tripled_box a w _ x hw (hQ j₀) hx⟩

/-! ## T06.4 shift bookkeeping -/

theorem shift_equiv_dist2 {d : ℕ} (x s q : Fin d → ℝ) :
    dist2 (fun i => x i + s i) q = dist2 x (fun i => q i + (-s i)) := by
  unfold dist2
  exact Finset.sum_congr rfl fun i _ => by ring

/-- searching with the query shifted by `k` widths is looking at the lattice image of `q` with shift `-k` -/
theorem shift_equiv_image {d : ℕ} (x w q : Fin d → ℝ) (k : Fin d → ℤ) :
    dist2 (fun i => x i + k i * w i) q = dist2 x (image q w (fun i => -k i)) := by
  rw [shift_equiv_dist2 x (fun i => k i * w i) q]
  congr 1
  funext i
  simp [image]

open Classical in
/-- the neighbour shift the code reports for query shift `s` -/
noncomputable def reportedShift (s : Fin 3 → ℝ) : Option (Fin 3 → ℝ) :=
  if ∀ i, s i = 0 then none else some (fun i => -s i)

theorem reportedShift_spec (w : Fin 3 → ℝ) (k : Fin 3 → ℤ) (hw : ∀ i, 0 < w i)
    (hk : ∀ i, k i = -1 ∨ k i = 0 ∨ k i = 1) :
    (reportedShift (fun i => k i * w i) = none ↔ k = 0) ∧
    (k ≠ 0 → reportedShift (fun i => k i * w i) = some (fun i => -(k i * w i))) ∧
    (∀ i, -(k i * w i) = -w i ∨ -((k i : ℝ) * w i) = 0 ∨ -(k i * w i) = w i) := by
  have key : (∀ i, (k i : ℝ) * w i = 0) ↔ k = 0 := by
    simp only [mul_eq_zero, (hw _).ne', or_false, Int.cast_eq_zero, funext_iff, Pi.zero_apply]
  refine ⟨?_, fun hne => if_neg (mt key.1 hne), fun i => by rcases hk i with h | h | h <;> simp [h]⟩
  rw [← key, reportedShift, ite_eq_left_iff]
  exact ⟨fun h => by_contra fun hn => Option.some_ne_none _ (h hn), fun h hn => absurd h hn⟩

/-! ## T06.3 wrapping a translated generator back into the box does not change its lattice -/

theorem image_image {d : ℕ} (q w : Fin d → ℝ) (n k : Fin d → ℤ) :
    image (image q w n) w k = image q w (fun i => n i + k i) := by
  funext i
  simp only [image]
  push_cast
  ring

/-- T06.3: replacing a generator by one of its lattice images (wrapping `g + t` back into the box) leaves the set of its
periodic images unchanged; with `VorSet.Vor_translate`, translating all generators and wrapping them only translates the
periodic tessellation -/
theorem images_of_wrapped {d : ℕ} (q w : Fin d → ℝ) (n : Fin d → ℤ) :
    Set.range (image (image q w n) w) = Set.range (image q w) := by
  have : image (image q w n) w = image q w ∘ fun k i => n i + k i := funext (image_image q w n)
  rw [this, Function.Surjective.range_comp]
  exact fun k => ⟨fun i => k i - n i, by funext i; ring⟩

theorem image_translate {d : ℕ} (q t w : Fin d → ℝ) (k : Fin d → ℤ) :
    image (fun i => q i + t i) w k = fun i => image q w k i + t i := by
  funext i
  simp only [image]
  ring

/-! ## T08.2 closed form of 1D cells -/

noncomputable def cellLo {n : ℕ} (a : ℝ) (g : Fin n → ℝ) (k : Fin n) : ℝ :=
  if h : (k : ℕ) = 0 then a else (g ⟨k - 1, by omega⟩ + g k) / 2

noncomputable def cellHi {n : ℕ} (a w : ℝ) (g : Fin n → ℝ) (k : Fin n) : ℝ :=
  if h : (k : ℕ) + 1 = n then a + w else (g k + g ⟨k + 1, by omega⟩) / 2

/-- of the midpoint bounds from the generators to the left, that of the left neighbour is the greatest -/
theorem cellLo_le_iff {n : ℕ} (a : ℝ) {g : Fin n → ℝ} (hg : Monotone g) (ha : ∀ j, a ≤ g j) (k : Fin n)
    (x : ℝ) : cellLo a g k ≤ x ↔ a ≤ x ∧ ∀ j < k, (g j + g k) / 2 ≤ x := by
  unfold cellLo
  split_ifs with h
  · exact ⟨fun h1 => ⟨h1, fun j hj => absurd hj (by omega)⟩, And.left⟩
  · refine ⟨fun h1 => ⟨?_, fun j hj => ?_⟩, fun h1 => h1.2 ⟨k - 1, _⟩ (Nat.sub_one_lt h)⟩
    · linarith [ha ⟨k - 1, by omega⟩, ha k]
    · linarith [hg (show j ≤ ⟨k - 1, by omega⟩ from Nat.le_sub_one_of_lt hj)]

theorem le_cellHi_iff {n : ℕ} (a w : ℝ) {g : Fin n → ℝ} (hg : Monotone g) (ha : ∀ j, g j ≤ a + w)
    (k : Fin n) (x : ℝ) : x ≤ cellHi a w g k ↔ x ≤ a + w ∧ ∀ j, k < j → x ≤ (g k + g j) / 2 := by
  unfold cellHi
  split_ifs with h
  · exact ⟨fun h1 => ⟨h1, fun j hj => absurd hj (by omega)⟩, And.left⟩
  · refine ⟨fun h1 => ⟨?_, fun j hj => ?_⟩, fun h1 => h1.2 ⟨k + 1, _⟩ (Nat.lt_succ_self k)⟩
    · linarith [ha ⟨k + 1, by omega⟩, ha k]
    · linarith [hg (show ⟨k + 1, by omega⟩ ≤ j from Nat.succ_le_of_lt hj)]

/-- T08.2: for strictly increasing generators in `[a, a + w]` the 1D cell of `g k` within the box is the interval between
the midpoints with its two neighbours (or the walls) -/
theorem cell_1d_eq {n : ℕ} (a w : ℝ) (g : Fin n → ℝ) (hg : StrictMono g)
    (hbox : ∀ j, a ≤ g j ∧ g j ≤ a + w) (k : Fin n) :
    {x : ℝ | a ≤ x ∧ x ≤ a + w ∧ ∀ j, |x - g k| ≤ |x - g j|} =
      Set.Icc (cellLo a g k) (cellHi a w g k) := by
  ext x
  rw [Set.mem_Icc, cellLo_le_iff a hg.monotone (fun j => (hbox j).1),
    le_cellHi_iff a w hg.monotone (fun j => (hbox j).2)]
  constructor
  · rintro ⟨h1, h2, h3⟩
    exact ⟨⟨h1, fun j hj => (closer_right_iff _ _ x (hg hj)).1 (h3 j)⟩, h2,
      fun j hj => (closer_left_iff _ _ x (hg hj)).1 (h3 j)⟩
  · rintro ⟨⟨h1, hl⟩, h2, hr⟩
    refine ⟨h1, h2, fun j => ?_⟩
    rcases lt_trichotomy j k with hjk | rfl | hjk
    · exact (closer_right_iff _ _ x (hg hjk)).2 (hl j hjk)
    · rfl
    · exact (closer_left_iff _ _ x (hg hjk)).2 (hr j hjk)

example :
    ({x : ℝ | 0 ≤ x ∧ x ≤ 0 + 4 ∧ ∀ j : Fin 3, |x - (![0, 1, 3] : Fin 3 → ℝ) 1| ≤
        |x - (![0, 1, 3] : Fin 3 → ℝ) j|} = Set.Icc (1 / 2) 2) ∧
    ({x : ℝ | 0 ≤ x ∧ x ≤ 0 + 4 ∧ ∀ j : Fin 3, |x - (![0, 1, 3] : Fin 3 → ℝ) 0| ≤
        |x - (![0, 1, 3] : Fin 3 → ℝ) j|} = Set.Icc 0 (1 / 2)) ∧
    ({x : ℝ | 0 ≤ x ∧ x ≤ 0 + 4 ∧ ∀ j : Fin 3, |x - (![0, 1, 3] : Fin 3 → ℝ) 2| ≤
        |x - (![0, 1, 3] : Fin 3 → ℝ) j|} = Set.Icc 2 4) := by
  have hg : StrictMono (![0, 1, 3] : Fin 3 → ℝ) := by
    refine Fin.strictMono_iff_lt_succ.2 fun i => ?_
    fin_cases i <;> simp
  have hbox : ∀ j : Fin 3, (0 : ℝ) ≤ (![0, 1, 3] : Fin 3 → ℝ) j ∧
      (![0, 1, 3] : Fin 3 → ℝ) j ≤ 0 + 4 := by
    norm_num [Fin.forall_fin_succ]
  simp only [cell_1d_eq 0 4 _ hg hbox]
  -- `norm_num` leaves the vector unevaluated at the index `2` that it makes of `⟨1 + 1, _⟩`
  norm_num [cellLo, cellHi, show (![0, 1, 3] : Fin 3 → ℝ) 2 = 3 from rfl]

/-! ## T02.3 unit thickness -/

/-- arithmetic only (no set, no measure is modelled): the slab `[-1/2, 1/2]` has length `1` -/
theorem prism_volume (base_area : ℝ) : base_area * (1 / 2 - (-1 / 2)) = base_area := by ring

theorem slab_centroid : ((-1 / 2 : ℝ) + 1 / 2) / 2 = 0 := by norm_num

/-- the first moment `(hi² - lo²)/2` of the slab: the out-of-plane centroid coordinate of a unit-thickness prism is `0` -/
theorem slab_first_moment : ((1 / 2 : ℝ) ^ 2 - (-1 / 2) ^ 2) / 2 = 0 := by norm_num

end MVoro.Periodic

#print axioms MVoro.Periodic.closer_image_1d
#print axioms MVoro.Periodic.clamp_image_1d
#print axioms MVoro.Periodic.clamp_image
#print axioms MVoro.Periodic.cell_in_half_width
#print axioms MVoro.Periodic.own_images_bound
#print axioms MVoro.Periodic.cell_in_tripled_box
#print axioms MVoro.Periodic.images27_suffice
#print axioms MVoro.Periodic.images27_suffice'
#print axioms MVoro.Periodic.shift_equiv_dist2
#print axioms MVoro.Periodic.shift_equiv_image
#print axioms MVoro.Periodic.reportedShift_spec
#print axioms MVoro.Periodic.cell_1d_eq
#print axioms MVoro.Periodic.prism_volume
#print axioms MVoro.Periodic.slab_centroid
#print axioms MVoro.Periodic.slab_first_moment
