/-
The Boolean tests and `max` / `min` of `GeomHelpers.instScalarReal` in Mathlib's terms, for the obligations in `Obl/*`.
-/
import MVoro.Model.Build
import MVoro.Proofs.GeomHelpers
namespace MVoro.Obl
open MVoro MVoro.GeomHelpers

@[simp] theorem slt_iff (a b : ℝ) : Scalar.lt a b = true ↔ a < b := by rw [scalar_lt, decide_eq_true_eq]
@[simp] theorem sle_iff (a b : ℝ) : Scalar.le a b = true ↔ a ≤ b := by rw [scalar_le, decide_eq_true_eq]

theorem smax_def (a b : ℝ) : Scalar.max a b = max a b := by
  simp only [Scalar.max, max_def, sle_iff]

theorem smin_def (a b : ℝ) : Scalar.min a b = min a b := by
  simp only [Scalar.min, min_def, sle_iff]

theorem eqb_zero_iff (x : ℝ) : Scalar.eqb x (0 : ℝ) = true ↔ x = 0 := by
  rw [Scalar.eqb, Bool.and_eq_true, sle_iff, sle_iff]
  exact le_antisymm_iff.symm

end MVoro.Obl
