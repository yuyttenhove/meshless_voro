/-
T01.4 (partial), the geometric half of "the vertex set and the half-space set maintained by `clip_by_plane` describe the same
polytope": **every vertex the clip creates is the point where an edge of the old cell crosses the new plane, and it satisfies
every half space of the cell** — for all planes and points over ℝ.

Setting.  A boundary edge `cur → next` of the removed region is a primal edge of the old cell: it joins a REMOVED vertex `v`
(`side v < 0` for the new plane) to a KEPT vertex `w` (`0 ≤ side w`), both on the planes `cur` and `next` (the closed-surface
invariant of C18 provides `w`: the reverse edge `next → cur` belongs to exactly one other vertex, and it was kept).  The code
creates `Vertex::from_dual(cur, next, p)` = `intersect_planes(cur, next, p)`.

What remains unproved (DESIGN §4 item 2): that a closed, consistently oriented surface with feasible vertices on its planes
IS the boundary of the intersection of the half spaces.
-/
import MVoro.Proofs.GeomHelpers
import MVoro.Proofs.Segment
namespace MVoro.ClipFeasible
open MVoro MVoro.GeomHelpers

/-- the half space is `0 ≤ side` -/
def side (h : Plane ℝ) (x : V3 ℝ) : ℝ := V3.dot h.n (x - h.p)

def lerp (w v : V3 ℝ) (t : ℝ) : V3 ℝ := w + V3.smul t (v - w)

theorem side_lerp (h : Plane ℝ) (w v : V3 ℝ) (t : ℝ) : side h (lerp w v t) = (1 - t) * side h w + t * side h v := by
  simp only [side, lerp, dot_def, sub_x, sub_y, sub_z, add_x, add_y, add_z, smul_x, smul_y, smul_z]
  ring

noncomputable def crossing (p : Plane ℝ) (w v : V3 ℝ) : ℝ := side p w / (side p w - side p v)

theorem side_crossing (p : Plane ℝ) (w v : V3 ℝ) (hw : 0 ≤ side p w) (hv : side p v < 0) :
    side p (lerp w v (crossing p w v)) = 0 := by
  rw [side_lerp]; exact (Segment.crossing_param hw hv).2.2

/-- T01.4a -/
theorem new_vertex_on_segment (cur next p : Plane ℝ) (hdet : det3cols cur.n next.n p.n ≠ 0) (w v : V3 ℝ)
    (hwc : side cur w = 0) (hwn : side next w = 0) (hvc : side cur v = 0) (hvn : side next v = 0)
    (hw : 0 ≤ side p w) (hv : side p v < 0) :
    Ref.intersectPlanes cur next p = lerp w v (crossing p w v) := by
  symm
  apply intersectPlanes_unique cur next p hdet
  · show side cur _ = 0; rw [side_lerp, hwc, hvc, mul_zero, mul_zero, add_zero]
  · show side next _ = 0; rw [side_lerp, hwn, hvn, mul_zero, mul_zero, add_zero]
  · exact side_crossing p w v hw hv

structure GCell where
  planes : List (Plane ℝ)
  verts : List (V3 ℝ)

def Feasible (c : GCell) : Prop := ∀ x ∈ c.verts, ∀ h ∈ c.planes, 0 ≤ side h x

/-- T01.4b.  `hnew`: a new vertex is an old one that was kept, or the crossing point of an old edge (between a kept and a removed
old vertex that share two planes `cur`, `next` of the old cell) -/
theorem feasible_preserved (c : GCell) (p : Plane ℝ) (news : List (V3 ℝ)) (hf : Feasible c)
    (hnew : ∀ u ∈ news,
      (u ∈ c.verts ∧ 0 ≤ side p u) ∨
      ∃ cur ∈ c.planes, ∃ next ∈ c.planes, ∃ w ∈ c.verts, ∃ v ∈ c.verts,
        det3cols cur.n next.n p.n ≠ 0 ∧ side cur w = 0 ∧ side next w = 0 ∧ side cur v = 0 ∧ side next v = 0 ∧
        0 ≤ side p w ∧ side p v < 0 ∧ u = Ref.intersectPlanes cur next p) :
    Feasible ⟨c.planes ++ [p], news⟩ := by
  intro u hu h hh
  simp only [List.mem_append, List.mem_singleton] at hh
  rcases hnew u hu with ⟨hold, hkept⟩ | ⟨cur, _, next, _, w, hwm, v, hvm, hdet, hwc, hwn, hvc, hvn, hw, hv, rfl⟩
  · rcases hh with hh | rfl
    · exact hf u hold h hh
    · exact hkept
  · -- the created vertex lies on the old edge: it satisfies what both ends satisfy
    rw [new_vertex_on_segment cur next p hdet w v hwc hwn hvc hvn hw hv]
    rcases hh with hh | rfl
    · obtain ⟨t0, t1, -⟩ := Segment.crossing_param hw hv
      rw [side_lerp]
      exact Segment.convex_nonneg t0 t1.le (hf w hwm h hh) (hf v hvm h hh)
    · exact (side_crossing _ w v hw hv).ge

/-- non-vacuity: the unit-cube corner `(1,1,1)` cut by the plane `x + y + z = 5/2`, edge along `x` from `(0,1,1)` -/
example : let cur : Plane ℝ := ⟨⟨0, -1, 0⟩, ⟨0, 1, 0⟩⟩; let next : Plane ℝ := ⟨⟨0, 0, -1⟩, ⟨0, 0, 1⟩⟩
    let p : Plane ℝ := ⟨⟨-1, -1, -1⟩, ⟨5 / 2, 0, 0⟩⟩
    det3cols cur.n next.n p.n ≠ 0 ∧ side cur ⟨0, 1, 1⟩ = 0 ∧ side next ⟨0, 1, 1⟩ = 0 ∧ side cur ⟨1, 1, 1⟩ = 0 ∧ side next ⟨1, 1, 1⟩ = 0 ∧
      0 ≤ side p ⟨0, 1, 1⟩ ∧ side p ⟨1, 1, 1⟩ < 0 := by
  simp only [side, dot_def, det3cols_def, sub_x, sub_y, sub_z]
  norm_num

#print axioms MVoro.ClipFeasible.feasible_preserved
end MVoro.ClipFeasible
