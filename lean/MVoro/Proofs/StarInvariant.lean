/-
The vertex invariants of an exact clip, together (T01.4c: T10.5 and T18.4 composed), over any ordered field.

A cell is described the way the code describes it: the generator `g`, for every plane index `i` the point `nbr i` whose
bisector with `g` is that plane (a neighbour, a periodic image, or — for a wall — the mirror image of `g`, `Obl/RightLoc`),
a list `T` of dual triples and the position `loc t` of each.  A vertex is good (`VOK`) when (1) it lies on its three bisector
planes, (2) its dual triple is positively oriented (`orient g a b c > 0`: the precondition of the exact in-sphere test),
(3) it satisfies every half space of the cell.

`clip_invariant`: clipping a closed surface (C18) of good vertices by a further bisector with EXACT decisions (removed ⇔
strictly closer to `nbr p` than to `g`) leaves every kept vertex and every created vertex `(x, y, p)` good;
`CycleBoundary.closed_preserved` adds that the new triple list is closed again.  What remains unproved of T01.4 is only the
step from these invariants to "the vertices are exactly the extreme points of the intersection of the half spaces"
(DESIGN §4 item 2).
-/
import MVoro.Proofs.Orientation
import MVoro.Proofs.CycleBoundary
import MVoro.Proofs.Segment
import Mathlib.Tactic.LinearCombination
import Mathlib.Algebra.Order.Field.Basic

namespace MVoro.Star
open MVoro Ref MVoro.C10 MVoro.InSphereProofs MVoro.CycleBoundary

variable {α : Type} [Field α] [LinearOrder α] [IsStrictOrderedRing α]

/-- `0 ≤ gap g q x` iff `x` lies in the half space of `q` -/
def gap (g q x : I3 α) : α := dist2 x q - dist2 x g

def lerp (w v : I3 α) (t : α) : I3 α :=
  ⟨w.c0 + t * (v.c0 - w.c0), w.c1 + t * (v.c1 - w.c1), w.c2 + t * (v.c2 - w.c2)⟩

section
omit [LinearOrder α] [IsStrictOrderedRing α]

theorem gap_lerp (g q w v : I3 α) (t : α) : gap g q (lerp w v t) = (1 - t) * gap g q w + t * gap g q v := by
  simp only [gap, dist2, lerp]; ring

theorem inSphere_eq_gap (g a b c v o : I3 α) (ha : gap g a o = 0) (hb : gap g b o = 0) (hc : gap g c o = 0) :
    inSphereDet g a b c v = orient g a b c * gap g v o := by
  have e : ∀ q, gap g q o = dist2 q o - dist2 g o := fun q => by rw [gap, dist2_comm o q, dist2_comm o g]
  rw [e] at ha hb hc ⊢
  exact insphere_power g a b c v o (sub_eq_zero.mp ha) (sub_eq_zero.mp hb) (sub_eq_zero.mp hc)

theorem orient_rot (g a b c : I3 α) : orient g b c a = orient g a b c := by
  rw [orient_swap_cd, orient_swap_bc, neg_neg]

end

theorem equi_unique {g a b p o o' : I3 α} (hdet : orient g a b p ≠ 0)
    (ha : gap g a o = 0) (hb : gap g b o = 0) (hp : gap g p o = 0)
    (ha' : gap g a o' = 0) (hb' : gap g b o' = 0) (hp' : gap g p o' = 0) : o = o' := by
  -- both candidates give every `v` the same `gap` (`inSphere_eq_gap`); the difference of the two gaps is `2 (v - g) · (o' - o)`,
  -- and `v = g + e₀, g + e₁, g + e₂` read off the coordinates
  have h : ∀ v, gap g v o = gap g v o' := fun v => mul_left_cancel₀ hdet
    ((inSphere_eq_gap g a b p v o ha hb hp).symm.trans (inSphere_eq_gap g a b p v o' ha' hb' hp'))
  have e : ∀ v : I3 α,
      (v.c0 - g.c0) * (o'.c0 - o.c0) + (v.c1 - g.c1) * (o'.c1 - o.c1) + (v.c2 - g.c2) * (o'.c2 - o.c2) = 0 := fun v => by
    have := h v
    simp only [gap, dist2] at this
    linear_combination this / 2
  have h0 := e ⟨g.c0 + 1, g.c1, g.c2⟩
  have h1 := e ⟨g.c0, g.c1 + 1, g.c2⟩
  have h2 := e ⟨g.c0, g.c1, g.c2 + 1⟩
  simp only [add_sub_cancel_left, sub_self, zero_mul, one_mul, add_zero, zero_add, sub_eq_zero] at h0 h1 h2
  cases o; cases o'
  simp only [I3.mk.injEq]
  exact ⟨h0.symm, h1.symm, h2.symm⟩

/-- `w → v`: an edge of the old cell (`w` kept, `v` removed by `p`); `u`: the created vertex -/
theorem crossing (g a b p w v u : I3 α) (hdet : orient g a b p ≠ 0)
    (hwa : gap g a w = 0) (hwb : gap g b w = 0) (hva : gap g a v = 0) (hvb : gap g b v = 0)
    (hw : 0 ≤ gap g p w) (hv : gap g p v < 0)
    (hua : gap g a u = 0) (hub : gap g b u = 0) (hup : gap g p u = 0) :
    ∃ t : α, 0 ≤ t ∧ t < 1 ∧ u = lerp w v t := by
  obtain ⟨t0, t1, hz⟩ := Segment.crossing_param hw hv
  refine ⟨_, t0, t1, equi_unique hdet hua hub hup ?_ ?_ ?_⟩
  · rw [gap_lerp, hwa, hva, mul_zero, mul_zero, add_zero]
  · rw [gap_lerp, hwb, hvb, mul_zero, mul_zero, add_zero]
  · rw [gap_lerp]; exact hz

/-- one boundary edge of an exact clip: `v = (a, b, c)` at `ov` is removed, `w = (b, a, d)` at `ow` across the edge is kept,
`(a, b, p)` at `u` is created -/
theorem clip_edge {g a b c d p ov ow u : I3 α}
    (hva : gap g a ov = 0) (hvb : gap g b ov = 0) (hvc : gap g c ov = 0) (hvo : 0 < orient g a b c)
    (hwb : gap g b ow = 0) (hwa : gap g a ow = 0) (hwd : gap g d ow = 0) (hwo : 0 < orient g b a d)
    (hvd : 0 ≤ gap g d ov)
    (hremoved : gap g p ov < 0) (hkept : 0 ≤ gap g p ow)
    (hua : gap g a u = 0) (hub : gap g b u = 0) (hup : gap g p u = 0) :
    0 < orient g a b p ∧ ∀ q : I3 α, 0 ≤ gap g q ov → 0 ≤ gap g q ow → 0 ≤ gap g q u := by
  have i1 : inSphereDet g a b c p < 0 := by
    rw [inSphere_eq_gap g a b c p ov hva hvb hvc]; exact mul_neg_of_pos_of_neg hvo hremoved
  have i2 : 0 ≤ inSphereDet g b a d p := by
    rw [inSphere_eq_gap g b a d p ow hwb hwa hwd]; exact mul_nonneg hwo.le hkept
  have i3 : 0 ≤ inSphereDet g a b c d := by
    rw [inSphere_eq_gap g a b c d ov hva hvb hvc]; exact mul_nonneg hvo.le hvd
  have hor := (Orientation.new_triple_oriented g a b c d p hvo hwo i1 i2 i3).1
  refine ⟨hor, fun q h1 h2 => ?_⟩
  obtain ⟨t, t0, t1, rfl⟩ := crossing g a b p ow ov u hor.ne' hwa hwb hva hvb hkept hremoved hua hub hup
  rw [gap_lerp]
  exact Segment.convex_nonneg t0 t1.le h2 h1

def VOK (g : I3 α) (nbr : Nat → I3 α) (planes : List Nat) (t : Dual) (o : I3 α) : Prop :=
  gap g (nbr t.a) o = 0 ∧ gap g (nbr t.b) o = 0 ∧ gap g (nbr t.c) o = 0 ∧
  0 < orient g (nbr t.a) (nbr t.b) (nbr t.c) ∧ ∀ i ∈ planes, 0 ≤ gap g (nbr i) o

omit [IsStrictOrderedRing α] in
/-- stated for the triple written out and not for `t.rot`, which the unifier would have to see through at every use -/
theorem VOK_rot {g : I3 α} {nbr : Nat → I3 α} {planes : List Nat} {a b c : Nat} {o : I3 α}
    (h : VOK g nbr planes ⟨a, b, c⟩ o) : VOK g nbr planes ⟨b, c, a⟩ o := by
  obtain ⟨h1, h2, h3, h4, h5⟩ := h
  exact ⟨h2, h3, h1, (orient_rot g _ _ _).symm ▸ h4, h5⟩

omit [IsStrictOrderedRing α] in
theorem VOK_edge {g : I3 α} {nbr : Nat → I3 α} {planes : List Nat} {t : Dual} {o : I3 α} (h : VOK g nbr planes t o)
    (hidx : t.a ∈ planes ∧ t.b ∈ planes ∧ t.c ∈ planes) {x y : Nat} (he : (x, y) ∈ t.edges) :
    ∃ z ∈ planes, VOK g nbr planes ⟨x, y, z⟩ o := by
  rw [mem_edges] at he
  rcases he with he | he | he <;> cases he
  · exact ⟨t.c, hidx.2.2, h⟩
  · exact ⟨t.a, hidx.1, VOK_rot (a := t.a) h⟩
  · exact ⟨t.b, hidx.2.1, VOK_rot (VOK_rot (a := t.a) h)⟩

/-- for any list `R` that holds exactly the removed vertices, in whatever order (`Step` of `StarReach` has them in the order the
greedy reconstruction consumed them) -/
theorem clip_invariant_of_mem {g : I3 α} {nbr : Nat → I3 α} {planes : List Nat} {T R : List Dual} {loc : Dual → I3 α} {p : Nat}
    (hclosed : Closed T)
    (hidx : ∀ t ∈ T, t.a ∈ planes ∧ t.b ∈ planes ∧ t.c ∈ planes)
    (hok : ∀ t ∈ T, VOK g nbr planes t (loc t))
    (memR : ∀ t, t ∈ R ↔ t ∈ T ∧ gap g (nbr p) (loc t) < 0) :
    (∀ t ∈ T, t ∉ R → VOK g nbr (p :: planes) t (loc t)) ∧
    (∀ e ∈ bdry R, ∀ u : I3 α, gap g (nbr e.1) u = 0 → gap g (nbr e.2) u = 0 → gap g (nbr p) u = 0 →
      VOK g nbr (p :: planes) ⟨e.1, e.2, p⟩ u) := by
  have kept : ∀ t ∈ T, t ∉ R → 0 ≤ gap g (nbr p) (loc t) := fun t ht h => not_lt.mp fun hn => h ((memR t).mpr ⟨ht, hn⟩)
  constructor
  · intro t ht hnot
    obtain ⟨h1, h2, h3, h4, h5⟩ := hok t ht
    exact ⟨h1, h2, h3, h4, List.forall_mem_cons.mpr ⟨kept t ht hnot, h5⟩⟩
  · rintro ⟨x, y⟩ he u hux huy hup
    obtain ⟨hin, hrev⟩ := mem_bdry.mp he
    obtain ⟨v, hvR, hve⟩ := mem_edgesOf.mp hin
    obtain ⟨hvT, hvrem⟩ := (memR v).mp hvR
    -- the vertex across the edge exists (closed surface) and was kept
    obtain ⟨w, hwT, hwe⟩ := mem_edgesOf.mp (hclosed.2 _ (mem_edgesOf.mpr ⟨v, hvT, hve⟩))
    have hwkept := kept w hwT fun hwR => hrev (mem_edgesOf.mpr ⟨w, hwR, hwe⟩)
    obtain ⟨c, _, va, vb, vc, vo, vf⟩ := VOK_edge (hok v hvT) (hidx v hvT) hve
    obtain ⟨d, hdp, wb, wa, wd, wo, wf⟩ := VOK_edge (hok w hwT) (hidx w hwT) hwe
    obtain ⟨hor, hfeas⟩ := clip_edge va vb vc vo wb wa wd wo (vf d hdp) hvrem hwkept hux huy hup
    exact ⟨hux, huy, hup, hor, List.forall_mem_cons.mpr ⟨hup.ge, fun i hi => hfeas (nbr i) (vf i hi) (wf i hi)⟩⟩

open Classical in
/-- T01.4c -/
theorem clip_invariant (g : I3 α) (nbr : Nat → I3 α) (planes : List Nat) (T : List Dual) (loc : Dual → I3 α) (p : Nat)
    (hclosed : Closed T)
    (hidx : ∀ t ∈ T, t.a ∈ planes ∧ t.b ∈ planes ∧ t.c ∈ planes)
    (hok : ∀ t ∈ T, VOK g nbr planes t (loc t)) :
    let R := T.filter fun t => decide (gap g (nbr p) (loc t) < 0)
    (∀ t ∈ T, t ∉ R → VOK g nbr (p :: planes) t (loc t)) ∧
    (∀ e ∈ bdry R, ∀ u : I3 α, gap g (nbr e.1) u = 0 → gap g (nbr e.2) u = 0 → gap g (nbr p) u = 0 →
      VOK g nbr (p :: planes) ⟨e.1, e.2, p⟩ u) :=
  clip_invariant_of_mem hclosed hidx hok fun t => by rw [List.mem_filter, decide_eq_true_eq]

/-! The data of the two non-vacuity examples in `StarReach`: `T0`, `has`, `loc0`, `nbr0` are `initT`, `hasWall`,
`corner ⟨0,0,0⟩ ⟨4,4,4⟩`, `mirrorNbr ⟨0,0,0⟩ ⟨4,4,4⟩ g0` written out (the first three definitionally, which is why `init_good` and
`init_vok` fit the examples). -/
def g0 : I3 ℚ := ⟨1, 2, 1⟩
def nbr0 : Nat → I3 ℚ
  | 0 => ⟨-1, 2, 1⟩ | 1 => ⟨7, 2, 1⟩ | 2 => ⟨1, -2, 1⟩ | 3 => ⟨1, 6, 1⟩ | 4 => ⟨1, 2, -1⟩ | _ => ⟨1, 2, 7⟩
def T0 : List Dual := [⟨2, 5, 0⟩, ⟨5, 3, 0⟩, ⟨1, 5, 2⟩, ⟨5, 1, 3⟩, ⟨4, 2, 0⟩, ⟨4, 0, 3⟩, ⟨2, 4, 1⟩, ⟨4, 3, 1⟩]
def has (t : Dual) (i : Nat) : Bool := t.a == i || t.b == i || t.c == i
def loc0 (t : Dual) : I3 ℚ := ⟨if has t 0 then 0 else 4, if has t 2 then 0 else 4, if has t 4 then 0 else 4⟩

#print axioms MVoro.Star.clip_invariant
end MVoro.Star
