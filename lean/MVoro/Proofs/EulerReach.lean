/-
C15 (T15.3) composed: every closed triple surface the algorithm can reach from the start box satisfies Euler's relation
`V + 4 = 2F` (⇔ `V − E + F = 2` with `E = 3V/2`) and has no pinched plane (`euler_reach`).
-/
import MVoro.Proofs.EulerClip
import MVoro.Proofs.LinkClip

namespace MVoro.EulerReach
open MVoro MVoro.CycleBoundary MVoro.Euler MVoro.EulerClip MVoro.LinkClip Relation

/-- the same predicate as `CycleWalk.Distinct` -/
def Distinct3 (d : Dual) : Prop := d.a ≠ d.b ∧ d.b ≠ d.c ∧ d.c ≠ d.a

/-- closed surface, no repeated vertex, three different planes per vertex, one umbrella per plane, Euler's relation -/
def SGood (T : List Dual) : Prop :=
  Closed T ∧ T.Nodup ∧ (∀ d ∈ T, Distinct3 d) ∧ (∀ j, LinkConn T j) ∧ T.length + 4 = 2 * (planesOf T).card

/-- one clip whose boundary reconstruction succeeded (`Greedy`) -/
def CStep (T T' : List Dual) : Prop :=
  ∃ (R : List Dual) (succ : Nat → Nat) (p : Nat), R ⊆ T ∧ R.Nodup ∧ Greedy R succ ∧ (∀ d ∈ T, ¬ HasPlane d p) ∧ T' = clipDuals T R p

/-- T15.3 -/
theorem cstep_good {T T' : List Dual} (h : SGood T) (hs : CStep T T') : SGood T' := by
  obtain ⟨hC, hN, hD, hL, hE⟩ := h
  obtain ⟨R, succ, p, hR, hRn, hG, hp, rfl⟩ := hs
  have hNR : (edgesOf R).Nodup := nodup_edgesOf_of_subset hC.1 hRn hR
  have hI : Inv succ R := greedy_inv hG hNR
  have hp' : ∀ d ∈ T, d.a ≠ p ∧ d.b ≠ p ∧ d.c ≠ p := fun d hd =>
    ⟨fun e => hp d hd (.inl e.symm), fun e => hp d hd (.inr (.inl e.symm)), fun e => hp d hd (.inr (.inr e.symm))⟩
  refine ⟨greedy_closed hC hR hRn hp' hG, nodup_clipDuals hN hNR (fun d hd => (hp' d hd).2.2), ?_,
    linkConn_preserved hC hR hI (greedy_conn hG hNR) hL hp, euler_preserved hC hN hL hD hR hRn hG hp hE⟩
  intro d hd
  rcases mem_clip_iff.mp hd with ⟨hdT, _⟩ | ⟨⟨x, y⟩, he, rfl⟩
  · exact hD d hdT
  · -- a new triple `(x, succ x, p)`: `x` and `succ x` are planes of `R`
    obtain ⟨r, hr, hre⟩ := mem_edgesOf.mp (mem_bdry.mp he).1
    exact ⟨((hI.1 x y).2 he).2, fun (e : y = p) => hp r (hR hr) (e ▸ hasPlane_of_edge_right hre),
      fun (e : p = x) => hp r (hR hr) (e ▸ hasPlane_of_edge_left hre)⟩

/-- the eight dual triples of `ConvexCell::init`: the same as `Cell.initDuals`, `CycleBoundary.cube` and `Star.initT`, of which only
`Cell.initDuals` is tied to the source text, by `Obl/CellInit` -/
abbrev box8 : List Dual := [⟨2, 5, 0⟩, ⟨5, 3, 0⟩, ⟨1, 5, 2⟩, ⟨5, 1, 3⟩, ⟨4, 2, 0⟩, ⟨4, 0, 3⟩, ⟨2, 4, 1⟩, ⟨4, 3, 1⟩]

instance (d : Dual) (j : Nat) : Decidable (HasPlane d j) := by unfold HasPlane; infer_instance
instance (d : Dual) : Decidable (Distinct3 d) := by unfold Distinct3; infer_instance

/-- the first triple of `T` across the edge of `d` that leaves `j` (`d` itself if there is none) -/
def across (T : List Dual) (j : Nat) (d : Dual) : Dual :=
  (T.find? fun d' => d.edges.any fun e => e.1 == j && d'.edges.contains (e.2, j)).getD d

theorem across_reach (T : List Dual) (j : Nat) (d : Dual) (k : Nat) :
    ReflTransGen (StepAt T j) d ((across T j)^[k] d) := by
  induction k with
  | zero => exact .refl
  | succ k ih =>
    rw [Function.iterate_succ_apply']
    refine ih.trans ?_
    generalize (across T j)^[k] d = a
    unfold across
    cases h : T.find? _ with
    | none => exact .refl
    | some d' =>
      have := List.find?_some h
      simp only [List.any_eq_true, Bool.and_eq_true, beq_iff_eq, List.contains_iff_mem, Prod.exists] at this
      obtain ⟨x, y, hxy, rfl, hy⟩ := this
      exact .single ⟨List.mem_of_find?_eq_some h, y, hxy, hy⟩

/-- a test for `LinkConn` that `decide` can run -/
theorem linkConn_of_walks {T : List Dual}
    (h : ∀ d ∈ T, ∀ j ∈ [d.a, d.b, d.c], ∀ d' ∈ T, HasPlane d' j → ∃ k < T.length, (across T j)^[k] d = d') (j : Nat) :
    LinkConn T j := by
  intro d hd d' hd' hdj hdj'
  obtain ⟨k, -, rfl⟩ := h d hd j (by simpa [HasPlane] using hdj) d' hd' hdj'
  exact across_reach T j d k

theorem box8_link (j : Nat) : LinkConn box8 j := linkConn_of_walks (by decide +kernel) j

/-- T15.3 (`8 + 4 = 2 · 6`).  `closed_cube` is about `CycleBoundary.cube`, the same literal as `box8`. -/
theorem box8_good : SGood box8 :=
  ⟨closed_cube, by decide, by decide, box8_link, by decide⟩

/-- T15.3 at full strength for the combinatorial model -/
theorem euler_reach {T : List Dual} (h : ReflTransGen CStep box8 T) : SGood T := by
  induction h with
  | refl => exact box8_good
  | tail _ hs ih => exact cstep_good ih hs

#print axioms MVoro.EulerReach.euler_reach
end MVoro.EulerReach
