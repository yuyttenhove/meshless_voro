/-
C15: `sort_face_vertices` (the array algorithm of `with_faces`) meets `FaceCycle.face_cycle`.

Part 1 (`sortFaceVertices_cycle`): if the vertices handed to `sort_face_vertices` are a bijection onto a cycle `c 0, …, c (m-1)`
in which every vertex has a plane after `p`, the next vertex contains that plane and no vertex other than `c k` and `c (k+1)`
contains it (`FaceSpec`), the algorithm hits none of its three `expect`/`assert!`s and returns the cycle in order, starting from
the vertex it was given first.
Part 2 (`sort_of_surface`): so it is for every face of a closed oriented surface with distinct edges, distinct planes per vertex
and connected links, with `c k = (nx T p)^[k] d₀`, the successor function of `FaceCycle`; by `EulerReach.euler_reach`, for
every cell reachable from the start box by clips.
-/
import MVoro.Proofs.FaceCycle
import MVoro.Proofs.FacesProofs
namespace MVoro.SortCycle
open MVoro MVoro.Faces

def val (vs : Array Nat) (i : Nat) : Nat := vs.getD i 0

theorem val_of_lt {vs : Array Nat} {i : Nat} (h : i < vs.size) : val vs i = vs[i] :=
  (Array.getD_eq_getD_getElem? ..).trans (by rw [Array.getElem?_eq_getElem h, Option.getD_some])

/-- the transposition `(a b)` applied to `i` -/
def tr (a b i : Nat) : Nat := if a = i then b else if b = i then a else i

theorem tr_lt {a b i m : Nat} (ha : a < m) (hb : b < m) (hi : i < m) : tr a b i < m := by
  unfold tr
  split
  · exact hb
  · split <;> assumption

theorem tr_tr (a b i : Nat) : tr a b (tr a b i) = i := by
  unfold tr
  by_cases h1 : a = i
  · subst h1
    by_cases h2 : a = b <;> simp [h2]
  · by_cases h2 : b = i <;> simp [h1, h2]

theorem val_swap (vs : Array Nat) (a b i : Nat) (ha : a < vs.size) (hb : b < vs.size) :
    val (vs.swapIfInBounds a b) i = val vs (tr a b i) := by
  unfold val tr
  rw [Array.swapIfInBounds_def, dif_pos ha, dif_pos hb, Array.swap_comm]
  simp only [Array.getD_eq_getD_getElem?, Array.getElem?_swap]
  split
  · rw [Array.getElem?_eq_getElem hb]
  · split
    · rw [Array.getElem?_eq_getElem ha]
    · rfl

/-- the face as the algorithm sees it: `c 0, …, c (m-1)` is the cycle of vertices of plane `p` -/
structure FaceSpec (p m : Nat) (c : Nat → Dual) : Prop where
  hp : ∀ k, k < m → ∃ x, nextPlaneOf (c k) p = some x
  hstep : ∀ k x, k + 1 < m → nextPlaneOf (c k) p = some x → dualContains (c (k + 1)) x = true
  huniq : ∀ k j x, k + 1 < m → j < m → nextPlaneOf (c k) p = some x → dualContains (c j) x = true → j = k ∨ j = k + 1
  hinj : ∀ i j, i < m → j < m → c i = c j → i = j

/-- the vertex list of the face, as a bijection onto the cycle -/
structure Lists (D : Nat → Dual) (m : Nat) (c : Nat → Dual) (vs : Array Nat) : Prop where
  size : vs.size = m
  mem : ∀ i, i < m → ∃ k, k < m ∧ D (val vs i) = c k
  surj : ∀ k, k < m → ∃ i, i < m ∧ D (val vs i) = c k
  inj : ∀ i j, i < m → j < m → D (val vs i) = D (val vs j) → i = j

theorem lists_swap {D : Nat → Dual} {m : Nat} {c : Nat → Dual} {vs : Array Nat} (h : Lists D m c vs) (a b : Nat)
    (ha : a < m) (hb : b < m) : Lists D m c (vs.swapIfInBounds a b) := by
  have hσ := fun i => val_swap vs a b i (h.size ▸ ha) (h.size ▸ hb)
  refine ⟨Array.size_swapIfInBounds.trans h.size, fun i hi => ?_, fun k hk => ?_, fun i j hi hj hij => ?_⟩
  · rw [hσ]
    exact h.mem _ (tr_lt ha hb hi)
  · obtain ⟨i, hi, hik⟩ := h.surj k hk
    refine ⟨tr a b i, tr_lt ha hb hi, ?_⟩
    rwa [hσ, tr_tr]
  · rw [hσ, hσ] at hij
    have := congrArg (tr a b) (h.inj _ _ (tr_lt ha hb hi) (tr_lt ha hb hj) hij)
    rwa [tr_tr, tr_tr] at this

variable {duals : Array Dual} {p m : Nat} {c : Nat → Dual}

theorem findNext_some (vs : Array Nat) (np : Nat)
    (hall : ∀ i, i < vs.size → ∃ x, nextPlaneOf (duals.getD (val vs i) default) p = some x)
    (fuel start t' : Nat) (h1 : start ≤ t') (h2 : t' < vs.size) (h3 : vs.size ≤ fuel + start)
    (h4 : dualContains (duals.getD (val vs t') default) np = true) :
    ∃ t, findNext duals p np vs fuel start = some t ∧ start ≤ t ∧ t < vs.size ∧
      dualContains (duals.getD (val vs t) default) np = true := by
  -- the branches of `findNext`: out of fuel; `p` not in the vertex; found; not this one; past the end
  fun_induction findNext duals p np vs fuel start with
  | case1 => omega
  | case2 fuel t h d hd =>
    obtain ⟨x, hx⟩ := hall t h
    rw [val_of_lt h, nextPlaneOf, hd] at hx
    cases hx
  | case3 fuel t h d _ _ hc => exact ⟨t, rfl, Nat.le_refl _, h, by rwa [val_of_lt h]⟩
  | case4 fuel t h d _ _ hc ih =>
    have hne : t ≠ t' := by
      rintro rfl
      rw [val_of_lt h] at h4
      exact hc h4
    obtain ⟨t₁, ht, h5, h6⟩ := ih (by omega) (by omega)
    exact ⟨t₁, ht, by omega, h6⟩
  | case5 => omega

/-- once the first `cur` positions hold `c 0, …, c (cur-1)`, the rest of the list is a bijection onto the rest of the cycle -/
theorem Lists.fixed {D : Nat → Dual} {vs : Array Nat} (L : Lists D m c vs) (hinj : ∀ i j, i < m → j < m → c i = c j → i = j)
    {cur : Nat} (hpre : ∀ k, k < cur → D (val vs k) = c k) {i k : Nat} (hi : i < m) (hk : k < m)
    (h : D (val vs i) = c k) : i = k ∨ cur ≤ i ∧ cur ≤ k := by
  rcases Nat.lt_or_ge i cur with h1 | h1
  · exact .inl (hinj i k hi hk ((hpre i h1).symm.trans h))
  rcases Nat.lt_or_ge k cur with h2 | h2
  · exact .inl (L.inj i k hi hk (h.trans (hpre k h2).symm))
  · exact .inr ⟨h1, h2⟩

/-- the last position is never searched for by the code: it is right because it holds the only vertex left -/
theorem Lists.last {D : Nat → Dual} {vs : Array Nat} (L : Lists D m c vs) (hinj : ∀ i j, i < m → j < m → c i = c j → i = j)
    {cur : Nat} (hpre : ∀ k, k < cur → D (val vs k) = c k) (hm : m ≤ cur + 1) (k : Nat) (hk : k < m) : D (val vs k) = c k := by
  obtain ⟨j, hj, hkj⟩ := L.mem k hk
  have := L.fixed hinj hpre hk hj hkj
  rw [hkj, show k = j by omega]

/-- the inner search stops at `c (n+1)`: the only other vertex that contains `np` is `c n`, at the sorted position `n` -/
theorem findNext_cycle (F : FaceSpec p m c) {vs : Array Nat} (L : Lists (fun i => duals.getD i default) m c vs) {n np : Nat}
    (hpre : ∀ k, k < n + 1 → duals.getD (val vs k) default = c k) (hn : n + 1 < m) (hnp : nextPlaneOf (c n) p = some np) :
    ∃ t, findNext duals p np vs (vs.size - (n + 1)) (n + 1) = some t ∧ n + 1 ≤ t ∧ t < m ∧
      duals.getD (val vs t) default = c (n + 1) := by
  have hfix := fun {i k} => L.fixed F.hinj hpre (i := i) (k := k)
  have hs := L.size
  have hall : ∀ i, i < vs.size → ∃ x, nextPlaneOf (duals.getD (val vs i) default) p = some x := fun i hi => by
    obtain ⟨k, hk, e⟩ := L.mem i (hs ▸ hi)
    exact e ▸ F.hp k hk
  obtain ⟨t', ht'm, ht'⟩ := L.surj (n + 1) hn
  have := hfix ht'm hn ht'
  obtain ⟨t, ht, htc, hts, htn⟩ := findNext_some vs np hall (vs.size - (n + 1)) (n + 1) t' (by omega) (hs ▸ ht'm) (by omega)
    (ht' ▸ F.hstep n np hn hnp)
  obtain ⟨j, hj, htj⟩ := L.mem t (hs ▸ hts)
  have := hfix (hs ▸ hts) hj htj
  have := F.huniq n j np hn hj hnp (htj ▸ htn)
  obtain rfl : j = n + 1 := by omega
  exact ⟨t, ht, htc, hs ▸ hts, htj⟩

theorem sortLoop_cycle (F : FaceSpec p m c) :
    ∀ fuel n np vs, Lists (fun i => duals.getD i default) m c vs → m ≤ fuel + n + 1 →
      (∀ k, k < n + 1 → duals.getD (val vs k) default = c k) →
      (n + 1 < m → nextPlaneOf (c n) p = some np) →
      ∃ res, sortLoop duals p fuel (n + 1) np vs = some res ∧ res.size = m ∧
        ∀ k, k < m → duals.getD (val res k) default = c k := by
  intro fuel
  induction fuel with
  | zero => exact fun n np vs L h hpre _ => ⟨vs, rfl, L.size, L.last F.hinj hpre (by omega)⟩
  | succ fuel ih =>
    intro n np vs L h hpre hnp
    have hs := L.size
    unfold sortLoop
    by_cases hc : n + 1 + 1 < vs.size
    · have hn : n + 1 < m := by omega
      obtain ⟨t, ht, htc, htm, htn⟩ := findNext_cycle F L hpre hn (hnp hn)
      obtain ⟨np2, hnp2⟩ := F.hp (n + 1) hn
      rw [if_pos hc]
      simp only [ht, show vs.getD t 0 = val vs t from rfl, htn, hnp2]
      -- the swap puts `c (n+1)` at position `n + 1` and leaves the positions before it alone
      refine ih (n + 1) np2 _ (lists_swap L (n + 1) t hn htm) (by omega) (fun k hk => ?_) (fun _ => hnp2)
      rw [val_swap vs (n + 1) t k (hs ▸ hn) (hs ▸ htm), tr]
      rcases Nat.lt_succ_iff_lt_or_eq.1 hk with hk' | rfl
      · rw [if_neg (Nat.ne_of_gt hk'), if_neg (Nat.ne_of_gt (Nat.lt_of_lt_of_le hk' htc))]
        exact hpre k hk'
      · rw [if_pos rfl]
        exact htn
    · rw [if_neg hc]
      exact ⟨vs, rfl, hs, L.last F.hinj hpre (by omega)⟩

/-- T15.2, part 1 -/
theorem sortFaceVertices_cycle (F : FaceSpec p m c) (vs : Array Nat)
    (L : Lists (fun i => duals.getD i default) m c vs) (h0 : 0 < m → duals.getD (val vs 0) default = c 0) :
    ∃ res, sortFaceVertices duals p vs = some res ∧ res.size = m ∧ ∀ k, k < m → duals.getD (val res k) default = c k := by
  unfold sortFaceVertices
  have hs := L.size
  by_cases hm : 0 < vs.size
  · obtain ⟨x, hx⟩ := F.hp 0 (hs ▸ hm)
    rw [dif_pos hm, ← val_of_lt hm, h0 (hs ▸ hm)]
    simp only [hx]
    refine sortLoop_cycle F vs.size 0 x vs L (by omega) (fun k hk => ?_) (fun _ => hx)
    obtain rfl : k = 0 := by omega
    exact h0 (hs ▸ hm)
  · rw [dif_neg hm]
    exact ⟨vs, rfl, hs, fun k hk => by omega⟩

open MVoro.CycleBoundary MVoro.Euler MVoro.EulerReach MVoro.FaceCycle MVoro.FacesProofs Function Relation

theorem next_edge {d : Dual} {p x : Nat} (h : nextPlaneOf d p = some x) : (p, x) ∈ d.edges := by
  simp only [nextPlaneOf, planeIdx, beq_iff_eq] at h
  rw [mem_edges]
  grind [dualGet]

theorem next_of_hasPlane {d : Dual} {p : Nat} (h : HasPlane d p) : ∃ x, nextPlaneOf d p = some x := by
  rw [← Option.isSome_iff_exists, nextPlaneOf, Option.isSome_map, planeIdx]
  unfold HasPlane at h
  grind

theorem dualContains_iff {d : Dual} {x : Nat} : dualContains d x = true ↔ HasPlane d x := by
  simp only [dualContains, Bool.or_eq_true, beq_iff_eq, HasPlane, @eq_comm _ x, or_assoc]

theorem faceSpec_of_cycle {T : List Dual} (hE : (edgesOf T).Nodup) (hD : ∀ d ∈ T, Distinct3 d) {p m : Nat} {c : Nat → Dual}
    (hAt : ∀ k, AtFace T p (c k)) (hst : ∀ k, StepAt T p (c k) (c (k + 1)))
    (hinj : ∀ i j, i < m → j < m → c i = c j → i = j) : FaceSpec p m c := by
  -- the plane after `p` in `c k` is the one across which `c (k + 1)` lies
  have hnext : ∀ k x, nextPlaneOf (c k) p = some x → (p, x) ∈ (c k).edges ∧ (x, p) ∈ (c (k + 1)).edges := by
    intro k x hx
    obtain ⟨_, y, hy, hy'⟩ := hst k
    rw [out_edge_unique (hD _ (hAt k).1) (next_edge hx) hy]
    exact ⟨hy, hy'⟩
  refine ⟨fun k _ => next_of_hasPlane (hAt k).2, fun k x _ hx => dualContains_iff.2 (hasPlane_of_edge_left (hnext k x hx).2),
    ?_, hinj⟩
  intro k j x hk hj hx hcj
  obtain ⟨h1, h2⟩ := hnext k x hx
  -- `c j` has `p` and `x`: it owns the edge `(p, x)` of `c k` or the edge `(x, p)` of `c (k + 1)`
  rcases edge_of_hasPlane (hAt j).2 (dualContains_iff.1 hcj) (edge_ne (hD _ (hAt k).1) h1) with h | h
  · exact .inl (hinj _ _ hj (by omega) (edge_unique hE (hAt j).1 (hAt k).1 h h1))
  · exact .inr (hinj _ _ hj hk (edge_unique hE (hAt j).1 (hAt (k + 1)).1 h h2))

theorem toList_eq_map (duals : Array Dual) :
    duals.toList = (List.range duals.size).map fun i => duals.getD i default := by
  apply List.ext_getElem
  · simp
  · intro i h1 h2
    have : i < duals.size := by simpa using h1
    simp [Array.getD, this]

theorem pushes_eq {d : Dual} (hd : Distinct3 d) (p i : Nat) :
    (if d.a == p then [i] else []) ++ (if d.b == p then [i] else []) ++ (if d.c == p then [i] else []) =
      if HasPlane d p then [i] else [] := by
  unfold Distinct3 at hd
  unfold HasPlane
  simp only [beq_iff_eq]
  grind

theorem flat_eq (D : Nat → Dual) (p : Nat) (n : Nat) (hD : ∀ i, i < n → Distinct3 (D i)) :
    ((List.range n).flatMap fun i =>
      (if (D i).a == p then [i] else []) ++ (if (D i).b == p then [i] else []) ++ (if (D i).c == p then [i] else [])) =
    (List.range n).filter fun i => decide (HasPlane (D i) p) := by
  induction n with
  | zero => rfl
  | succ n ih =>
    rw [List.range_succ, List.flatMap_append, List.filter_append, ih fun i hi => hD i (by omega), List.flatMap_singleton,
      pushes_eq (hD n (by omega)), List.filter_singleton]
    by_cases h : HasPlane (D n) p <;> simp [h]

theorem map_collected (duals : Array Dual) (p : Nat) (hD : ∀ d ∈ duals.toList, Distinct3 d) :
    (collected duals p).map (fun i => duals.getD i default) = duals.toList.filter fun d => decide (HasPlane d p) := by
  have hDi : ∀ i, i < duals.size → Distinct3 (duals.getD i default) := fun i hi =>
    hD _ (by rw [toList_eq_map]; exact List.mem_map.2 ⟨i, List.mem_range.2 hi, rfl⟩)
  rw [show collected duals p = _ from flat_eq (fun i => duals.getD i default) p duals.size hDi]
  conv_rhs => rw [toList_eq_map duals, List.filter_map]
  rfl

theorem length_collected (duals : Array Dual) (p : Nat) (hD : ∀ d ∈ duals.toList, Distinct3 d) :
    (collected duals p).length = (duals.toList.filter fun d => decide (HasPlane d p)).length := by
  rw [← map_collected duals p hD, List.length_map]

theorem Lists.of_map {D : Nat → Dual} {m : Nat} {c : Nat → Dual} {l : List Nat} (hlen : l.length = m)
    (hnd : (l.map D).Nodup) (hmem : ∀ d, d ∈ l.map D ↔ d ∈ (List.range m).map c) : Lists D m c l.toArray := by
  subst hlen
  have hv : ∀ i (hi : i < l.length), D (val l.toArray i) = (l.map D)[i]'(by simpa using hi) := by
    intro i hi
    rw [val_of_lt (vs := l.toArray) hi, List.getElem_toArray, List.getElem_map]
  refine ⟨by simp, fun i hi => ?_, fun k hk => ?_, fun i j hi hj h => ?_⟩
  · obtain ⟨k, hk, e⟩ := List.mem_map.1 ((hmem _).1 (hv i hi ▸ List.getElem_mem _))
    exact ⟨k, List.mem_range.1 hk, e.symm⟩
  · obtain ⟨i, hi, e⟩ := List.getElem_of_mem ((hmem _).2 (List.mem_map_of_mem (List.mem_range.2 hk)))
    have hi' : i < l.length := by simpa using hi
    exact ⟨i, hi', by rw [hv i hi', e]⟩
  · rw [hv i hi, hv j hj] at h
    exact (hnd.getElem_inj_iff).1 h

theorem first_atFace (duals : Array Dual) (p : Nat) (hD : ∀ d ∈ duals.toList, Distinct3 d)
    (hm : 0 < (collected duals p).length) :
    AtFace duals.toList p (duals.getD (val (collected duals p).toArray 0) default) := by
  have : duals.getD (val (collected duals p).toArray 0) default ∈ (collected duals p).map fun i => duals.getD i default := by
    rw [val_of_lt (vs := (collected duals p).toArray) hm, List.getElem_toArray]
    exact List.mem_map_of_mem (List.getElem_mem _)
  rw [map_collected duals p hD, List.mem_filter] at this
  exact ⟨this.1, by simpa using this.2⟩

/-- T15.2, part 2: `sort_face_vertices` applied to the list `with_faces` collected returns the face cycle of `FaceCycle` -/
theorem sort_of_surface (duals : Array Dual) (p : Nat) (hC : Closed duals.toList) (hN : duals.toList.Nodup)
    (hD : ∀ d ∈ duals.toList, Distinct3 d) (hL : LinkConn duals.toList p) :
    let T := duals.toList
    let vs := (collected duals p).toArray
    let m := (T.filter fun d => decide (HasPlane d p)).length
    ∃ res, sortFaceVertices duals p vs = some res ∧ res.size = m ∧
      ∀ k, k < m → duals.getD (val res k) default = (nx T p)^[k] (duals.getD (val vs 0) default) := by
  intro T vs m
  have hmap := map_collected duals p hD
  have hlen : (collected duals p).length = m := length_collected duals p hD
  rcases Nat.eq_zero_or_pos m with hm | hm
  · have : collected duals p = [] := List.length_eq_zero_iff.1 (hlen.trans hm)
    exact ⟨#[], by simp [vs, this, sortFaceVertices], by simp [hm], fun k hk => by omega⟩
  · have h₀ := first_atFace duals p hD (hlen ▸ hm)
    obtain ⟨hnd, hmem, hst, _⟩ := face_cycle hC hN hD hL h₀
    refine sortFaceVertices_cycle
      (faceSpec_of_cycle hC.1 hD (iter_atFace hC h₀) hst fun i j hi hj h =>
        List.inj_on_of_nodup_map hnd (List.mem_range.2 hi) (List.mem_range.2 hj) h)
      vs (Lists.of_map hlen (hmap ▸ hN.filter _) fun d => ?_) (fun _ => rfl)
    rw [hmap, List.mem_filter, decide_eq_true_eq]
    exact (hmem d).symm

/-- the ordered face is a closed walk: every vertex is joined to the next one, and the last to the first, across the edge that
leaves the face plane -/
theorem sorted_closed_walk (duals : Array Dual) (p : Nat) (hC : Closed duals.toList) (hN : duals.toList.Nodup)
    (hD : ∀ d ∈ duals.toList, Distinct3 d) (hL : LinkConn duals.toList p) :
    ∃ res, sortFaceVertices duals p (collected duals p).toArray = some res ∧
      ∀ k, k < res.size → StepAt duals.toList p (duals.getD (val res k) default) (duals.getD (val res ((k + 1) % res.size)) default) := by
  obtain ⟨res, h1, h2, h3⟩ := sort_of_surface duals p hC hN hD hL
  refine ⟨res, h1, fun k hk => ?_⟩
  rw [h2] at hk ⊢
  have h₀ := first_atFace duals p hD (length_collected duals p hD ▸ Nat.zero_lt_of_lt hk)
  obtain ⟨_, _, hst, hper⟩ := face_cycle hC hN hD hL h₀
  -- `hper : (nx T p)^[m] d₀ = d₀` is `IsPeriodicPt (nx T p) m d₀` unfolded
  rw [h3 k hk, h3 _ (Nat.mod_lt _ (by omega)), IsPeriodicPt.iterate_mod_apply hper]
  exact hst k

theorem sortedFace_of_surface (duals : Array Dual) (p : Nat) (hC : Closed duals.toList) (hN : duals.toList.Nodup)
    (hD : ∀ d ∈ duals.toList, Distinct3 d) (hL : LinkConn duals.toList p) :
    (sortFaceVertices duals p (collected duals p).toArray).isSome ∧
      (sortedFace duals p).length = (duals.toList.filter fun d => decide (HasPlane d p)).length := by
  obtain ⟨res, h1, h2, _⟩ := sort_of_surface duals p hC hN hD hL
  exact ⟨Option.isSome_iff_exists.2 ⟨res, h1⟩, by simpa [sortedFace, h1] using h2⟩

theorem withFaces_of_surface (duals : Array Dual) (hC : Closed duals.toList) (hN : duals.toList.Nodup)
    (hD : ∀ d ∈ duals.toList, Distinct3 d) (hL : ∀ p, LinkConn duals.toList p) (nplanes : Nat) :
    ∃ faces, withFaces duals nplanes = some faces :=
  ⟨_, withFaces_of_sorted duals nplanes fun p _ => (sortedFace_of_surface duals p hC hN hD (hL p)).1⟩

/-- for every cell reachable from the start box by clips, `with_faces` orders every face as its vertex cycle -/
theorem reachable_sort (duals : Array Dual) (h : ReflTransGen CStep box8 duals.toList) (p : Nat) :
    let T := duals.toList
    let vs := (collected duals p).toArray
    let m := (T.filter fun d => decide (HasPlane d p)).length
    ∃ res, sortFaceVertices duals p vs = some res ∧ res.size = m ∧
      ∀ k, k < m → duals.getD (val res k) default = (nx T p)^[k] (duals.getD (val vs 0) default) := by
  obtain ⟨hC, hN, hD, hL, _⟩ := euler_reach h
  exact sort_of_surface duals p hC hN hD (hL p)

/-- non-vacuity: face 0 of the start box is ordered as a 4-cycle -/
example : sortFaceVertices box8.toArray 0 (collected box8.toArray 0).toArray = some #[0, 4, 5, 1] := by decide +kernel
example : ∃ res, sortFaceVertices box8.toArray 0 (collected box8.toArray 0).toArray = some res ∧ res.size = 4 := by
  obtain ⟨res, h1, h2, _⟩ := reachable_sort box8.toArray ReflTransGen.refl 0
  exact ⟨res, h1, h2⟩

/-- T15.2: `with_faces` returns a result for every cell reachable from the start box: no `expect`/`assert!` of
`sort_face_vertices` fires, for any face -/
theorem reachable_withFaces (duals : Array Dual) (h : ReflTransGen CStep box8 duals.toList) (nplanes : Nat) :
    ∃ faces, withFaces duals nplanes = some faces := by
  obtain ⟨hC, hN, hD, hL, _⟩ := euler_reach h
  exact withFaces_of_surface duals hC hN hD hL nplanes

#print axioms sortFaceVertices_cycle
#print axioms sorted_closed_walk
#print axioms reachable_withFaces
#print axioms reachable_sort
end MVoro.SortCycle
