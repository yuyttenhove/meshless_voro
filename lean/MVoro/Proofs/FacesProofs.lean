/-
C15 (T15.2, the part that holds for every input): `sort_face_vertices` only permutes the vertices it was given, and the list
that the collection step of `with_faces` builds for plane `p` (`collected`) holds vertex `i` as often as `p` occurs in its dual
triple: three times in total.  `withFaces_of_sorted` writes `with_faces` through the per-plane ordering step.  Core Lean only.
-/
import MVoro.Model.Faces
import MVoro.Proofs.ListSum
namespace MVoro.FacesProofs
open MVoro MVoro.Faces MVoro.ListSum

/-- the `Array.Perm` form of `CycleBoundary.swapIfInBounds_perm` -/
theorem swapIfInBounds_arrayPerm {α : Type} (vs : Array α) (i j : Nat) : (vs.swapIfInBounds i j).Perm vs := by
  unfold Array.swapIfInBounds
  split
  · split
    · exact Array.swap_perm _ _
    · exact Array.Perm.refl _
  · exact Array.Perm.refl _

theorem sortLoop_perm {duals : Array Dual} {p fuel cur np : Nat} {vs res : Array Nat}
    (h : sortLoop duals p fuel cur np vs = some res) : res.Perm vs := by
  -- the branches of `sortLoop`: out of fuel or done (1, 5); a failed search or `expect` (2, 3); swap and go on (4)
  fun_induction sortLoop duals p fuel cur np vs with
  | case1 | case5 =>
    cases h
    exact .refl _
  | case2 | case3 => cases h
  | case4 _ cur _ vs _ t _ _ _ _ ih => exact (ih h).trans (swapIfInBounds_arrayPerm vs cur t)

/-- T15.2a: whenever the ordering step succeeds, its result is a permutation of the vertices it was given -/
theorem sortFaceVertices_perm (duals : Array Dual) (p : Nat) (vs res : Array Nat)
    (h : sortFaceVertices duals p vs = some res) : res.Perm vs := by
  unfold sortFaceVertices at h
  split at h
  · split at h
    · cases h
    · exact sortLoop_perm h
  · cases h
    exact .refl _

def occ (d : Dual) (p : Nat) : Nat :=
  (if d.a == p then 1 else 0) + (if d.b == p then 1 else 0) + (if d.c == p then 1 else 0)

def collected (duals : Array Dual) (p : Nat) : List Nat :=
  (List.range duals.size).flatMap fun i =>
    let d := duals.getD i default
    (if d.a == p then [i] else []) ++ (if d.b == p then [i] else []) ++ (if d.c == p then [i] else [])

theorem collect_eq (duals : Array Dual) (nplanes : Nat) :
    collect duals nplanes = (List.range nplanes).map fun p => (collected duals p).toArray := rfl

/-- the ordered vertex list of plane `p` (empty if the ordering step fails) -/
def sortedFace (duals : Array Dual) (p : Nat) : List Nat :=
  ((sortFaceVertices duals p (collected duals p).toArray).getD #[]).toList

theorem withFaces_of_sorted (duals : Array Dual) (n : Nat)
    (h : ∀ p, p < n → (sortFaceVertices duals p (collected duals p).toArray).isSome) :
    withFaces duals n = some (((List.range n).map fun p => (p, sortedFace duals p)).filter fun f => !f.2.isEmpty) := by
  have hsorted : ((collect duals n).zip (List.range n)).map (fun (x : Array Nat × Nat) =>
      (sortFaceVertices duals x.2 x.1).map fun s => (x.2, s.toList)) = (List.range n).map fun p => some (p, sortedFace duals p) := by
    rw [collect_eq, List.zip_eq_zipWith, List.zipWith_map_left, List.zipWith_self, List.map_map]
    refine List.map_congr_left fun p hp => ?_
    obtain ⟨res, hres⟩ := Option.isSome_iff_exists.1 (h p (List.mem_range.1 hp))
    simp [sortedFace, hres]
  unfold withFaces
  simp only
  rw [hsorted, if_pos (by simp)]
  congr 2
  simp [List.filterMap_map]

theorem count_flatMap_range (n i : Nat) (f : Nat → List Nat) (hf : ∀ j, ∀ x ∈ f j, x = j) :
    ((List.range n).flatMap f).count i = if i < n then (f i).count i else 0 := by
  induction n with
  | zero => simp
  | succ n ih =>
    rw [List.range_succ, List.flatMap_append, List.count_append, ih, List.flatMap_singleton]
    have : i ≠ n → (f n).count i = 0 := fun h => List.count_eq_zero.2 fun hm => h (hf n i hm)
    grind

theorem count_ite_self (c : Prop) [Decidable c] (i : Nat) : (if c then [i] else []).count i = if c then 1 else 0 := by
  split <;> simp

theorem eq_of_mem_ite {c : Prop} [Decidable c] {x j : Nat} (h : x ∈ (if c then [j] else [])) : x = j := by
  split at h <;> simp_all

/-- T15.2b: vertex `i` is listed under plane `p` exactly as often as `p` occurs in its dual triple -/
theorem count_collected (duals : Array Dual) (p i : Nat) (hi : i < duals.size) :
    (collected duals p).count i = occ (duals.getD i default) p := by
  unfold collected
  rw [count_flatMap_range, if_pos hi]
  · simp only [List.count_append, count_ite_self]
    rfl
  · intro j x hx
    simp only [List.mem_append] at hx
    rcases hx with (hx | hx) | hx <;> exact eq_of_mem_ite hx

theorem occ_distinct (d : Dual) (hab : d.a ≠ d.b) (hbc : d.b ≠ d.c) (hac : d.a ≠ d.c) (p : Nat) :
    occ d p = if p = d.a ∨ p = d.b ∨ p = d.c then 1 else 0 := by
  simp only [occ, beq_iff_eq]
  grind

/-- T15.2c: a vertex whose three planes are `< nplanes` is listed three times in total (under three different planes when they
are distinct, `occ_distinct`) -/
theorem total_occ_three (d : Dual) (nplanes : Nat)
    (ha : d.a < nplanes) (hb : d.b < nplanes) (hc : d.c < nplanes) :
    ((List.range nplanes).map (occ d)).sum = 3 := by
  show ((List.range nplanes).map fun p =>
    (if d.a == p then 1 else 0) + (if d.b == p then 1 else 0) + (if d.c == p then 1 else 0)).sum = 3
  simp only [beq_iff_eq, sum_map_add, sum_range_ite, ha, hb, hc, if_true]

/-- non-vacuity: the cube (the initial cell of every construction) -/
def cube : Array Dual := #[⟨2, 5, 0⟩, ⟨5, 3, 0⟩, ⟨1, 5, 2⟩, ⟨5, 1, 3⟩, ⟨4, 2, 0⟩, ⟨4, 0, 3⟩, ⟨2, 4, 1⟩, ⟨4, 3, 1⟩]

example : withFaces cube 6 = some [(0, [0, 4, 5, 1]), (1, [2, 3, 7, 6]), (2, [0, 2, 6, 4]), (3, [1, 5, 7, 3]), (4, [4, 6, 7, 5]), (5, [0, 1, 3, 2])] := by
  decide +kernel

example : euler 8 ((withFaces cube 6).getD []) = 2 := by decide +kernel

end MVoro.FacesProofs
