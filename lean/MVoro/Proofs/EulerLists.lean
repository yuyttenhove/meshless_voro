/-
C15: Euler's relation for the face lists that `with_faces` returns (`Model/Faces.withFaces`, compared with the code token by token).

`Faces.euler nv faces = nv − (Σ half edges)/2 + #faces` is what the check computes from the implementation's face lists.  It is 2
for every `SGood` surface, hence for every cell reachable from the start box by clips: the ordering step succeeds for every
plane and returns as many entries as there are vertices on it (`SortCycle.sortedFace_of_surface`), no face has exactly one
vertex (from `FaceCycle.face_cycle`), the sizes add up to `3 V`, and `V + 4 = 2 F` is part of `SGood`.
-/
import MVoro.Proofs.SortCycle
namespace MVoro.EulerLists
open MVoro MVoro.Faces MVoro.FacesProofs MVoro.ListSum MVoro.CycleBoundary MVoro.Euler MVoro.EulerClip MVoro.EulerReach MVoro.FaceCycle
  MVoro.SortCycle Relation

/-- number of vertices on plane `p` -/
def M (T : List Dual) (p : Nat) : Nat := (T.filter fun d => decide (HasPlane d p)).length

theorem M_cons (d : Dual) (T : List Dual) (p : Nat) : M (d :: T) p = (if HasPlane d p then 1 else 0) + M T p := by
  simp only [M, ← List.countP_eq_length_filter, List.countP_cons, decide_eq_true_eq]
  exact Nat.add_comm _ _

theorem M_pos {T : List Dual} {p : Nat} : 0 < M T p ↔ ∃ d ∈ T, HasPlane d p := by
  simp only [M, List.length_pos_iff_exists_mem, List.mem_filter, decide_eq_true_eq]

/-- every vertex lies on three planes: the face sizes add up to `3 V` -/
theorem sum_M (T : List Dual) (n : Nat) (hD : ∀ d ∈ T, Distinct3 d) (hn : ∀ d ∈ T, d.a < n ∧ d.b < n ∧ d.c < n) :
    ((List.range n).map (M T)).sum = 3 * T.length := by
  induction T with
  | nil => exact sum_map_zero (List.range n)
  | cons d T ih =>
    obtain ⟨hab, hbc, hca⟩ := hD d List.mem_cons_self
    obtain ⟨ha, hb, hc⟩ := hn d List.mem_cons_self
    have : (List.range n).map (M (d :: T)) = (List.range n).map (fun p => occ d p + M T p) :=
      List.map_congr_left fun p _ => (M_cons d T p).trans (congrArg (· + M T p) (occ_distinct d hab hbc hca.symm p).symm)
    rw [this, sum_map_add, total_occ_three d n ha hb hc, ih (fun d hd => hD d (List.mem_cons_of_mem _ hd))
      (fun d hd => hn d (List.mem_cons_of_mem _ hd)), List.length_cons]
    omega

theorem card_planes (T : List Dual) (n : Nat) (hn : ∀ d ∈ T, d.a < n ∧ d.b < n ∧ d.c < n) :
    ((List.range n).filter fun p => decide (0 < M T p)).length = (planesOf T).card := by
  rw [← List.toFinset_card_of_nodup (List.nodup_range.filter _)]
  congr 1
  ext p
  simp only [List.mem_toFinset, List.mem_filter, List.mem_range, decide_eq_true_eq, mem_planesOf, M_pos]
  refine and_iff_right_of_imp ?_
  rintro ⟨d, hd, hp⟩
  obtain ⟨h1, h2, h3⟩ := hn d hd
  rcases hp with rfl | rfl | rfl <;> assumption

theorem M_ne_one {T : List Dual} (hC : Closed T) (hN : T.Nodup) (hD : ∀ d ∈ T, Distinct3 d) (p : Nat) (hL : LinkConn T p) : M T p ≠ 1 := by
  intro h1
  obtain ⟨d₀, h₀⟩ := M_pos.1 (Nat.lt_of_lt_of_eq Nat.one_pos h1.symm)
  obtain ⟨_, _, hst, hper⟩ := face_cycle hC hN hD hL h₀
  -- period 1 means `nx d₀ = d₀`; a step from `d₀` to itself needs an edge and its reverse in one triple
  have h := hst 0
  unfold M at h1
  rw [h1] at hper
  simp only [Function.iterate_zero, id_eq, zero_add, hper] at h
  obtain ⟨_, x, hx, hx'⟩ := h
  exact no_back_edge (hD d₀ h₀.1) hx hx'

/-- what `Faces.euler` computes when no face is a 1-gon: a face with `m` vertices has `m` half edges -/
theorem euler_eq {nv : Nat} {faces : List (Nat × List Nat)} (h1 : ∀ f ∈ faces, f.2.length ≠ 1) :
    euler nv faces = nv - (((faces.map fun f => f.2.length).sum / 2 : Nat) : Int) + faces.length := by
  have hm : ∀ m : Nat, m ≠ 1 → (if m ≥ 3 then m else if m == 2 then 2 else 0) = m := fun m h => by
    obtain _ | _ | _ | m := m
    exacts [rfl, absurd rfl h, rfl, if_pos (Nat.le_add_left 3 m)]
  rw [euler, List.map_congr_left fun f hf => hm _ (h1 f hf)]

theorem euler_of_lengths {V n Fc : Nat} (F : Nat → List Nat) (h1 : ∀ p, (F p).length ≠ 1)
    (hsum : ((List.range n).map fun p => (F p).length).sum = 3 * V)
    (hcard : ((List.range n).filter fun p => decide (0 < (F p).length)).length = Fc) (hE : V + 4 = 2 * Fc) :
    euler V (((List.range n).map fun p => (p, F p)).filter fun f => !f.2.isEmpty) = 2 := by
  have hF : (((List.range n).map fun p => (p, F p)).filter fun f => !f.2.isEmpty).length = Fc := by
    rw [List.filter_map, List.length_map, ← hcard]
    refine congrArg List.length (List.filter_congr fun p _ => ?_)
    rw [Function.comp_apply]
    cases F p <;> rfl
  -- the empty lists that the filter drops add nothing to the sum
  have hH : ((((List.range n).map fun p => (p, F p)).filter fun f => !f.2.isEmpty).map fun f => f.2.length).sum = 3 * V := by
    rw [sum_filter_of_zero _ _ _ fun f _ hf => by simpa using hf, List.map_map]
    exact hsum
  rw [euler_eq fun f hf => ?_, hH, hF]
  · omega -- `3 * V / 2` is exact: `V` is even by `hE`
  · obtain ⟨p, _, rfl⟩ := List.mem_map.1 (List.mem_filter.1 hf).1
    exact h1 p

theorem euler_lists_of_sgood (duals : Array Dual) (h : SGood duals.toList) (n : Nat)
    (hn : ∀ d ∈ duals.toList, d.a < n ∧ d.b < n ∧ d.c < n) :
    ∃ faces, withFaces duals n = some faces ∧ euler duals.size faces = 2 := by
  obtain ⟨hC, hN, hD, hL, hE⟩ := h
  have hsort := fun p => sortedFace_of_surface duals p hC hN hD (hL p)
  have hlen : ∀ p, (sortedFace duals p).length = M duals.toList p := fun p => (hsort p).2
  refine ⟨_, withFaces_of_sorted duals n fun p _ => (hsort p).1, euler_of_lengths (sortedFace duals) (fun p => ?_) ?_ ?_
    (by simpa using hE)⟩
  · rw [hlen]
    exact M_ne_one hC hN hD p (hL p)
  · simp only [hlen, Array.size_eq_length_toList]
    exact sum_M _ n hD hn
  · simp only [hlen]
    exact card_planes _ n hn

/-- **Euler's relation for the face lists that `with_faces` returns**, for every cell reachable from the start box -/
theorem reachable_euler_lists (duals : Array Dual) (h : ReflTransGen CStep box8 duals.toList) (n : Nat)
    (hn : ∀ d ∈ duals.toList, d.a < n ∧ d.b < n ∧ d.c < n) :
    ∃ faces, withFaces duals n = some faces ∧ euler duals.size faces = 2 :=
  euler_lists_of_sgood duals (euler_reach h) n hn

/-- non-vacuity: the start box -/
example : ∃ faces, withFaces box8.toArray 6 = some faces ∧ euler 8 faces = 2 :=
  reachable_euler_lists box8.toArray ReflTransGen.refl 6 (by decide)

#print axioms reachable_euler_lists
end MVoro.EulerLists
