/-
C15 (T15.3): **Euler's relation `V − E + F = 2` is an invariant of clipping.**

In the dual description a cell is a closed triple surface `T`: `V = |T|` vertices (triples), `F =` number of planes that occur
in `T`, and `E = 3V/2` (three edges per vertex, each shared by two), so `V − E + F = 2 ⇔ V + 4 = 2F`.

`disc_relation`: a removed region `R` on which the greedy reconstruction succeeds satisfies the Euler relation of a disc,
`2m + b = k + 2` (`k = |R|` triangles, `b` boundary vertices, `m` interior vertices), by induction over the greedy run.  Hence
`euler_preserved`, provided no plane of `T` is pinched (`LinkConn`, the hypothesis of `Euler.interior_gone`; clips keep it:
`LinkClip.linkConn_preserved`).
-/
import MVoro.Proofs.Euler
import Mathlib.Data.Finset.Card

namespace MVoro.EulerClip
open MVoro MVoro.CycleBoundary MVoro.Euler

def planesOf (R : List Dual) : Finset Nat := (R.flatMap fun d => [d.a, d.b, d.c]).toFinset

theorem mem_planesOf {R : List Dual} {j : Nat} : j ∈ planesOf R ↔ ∃ d ∈ R, HasPlane d j := by
  simp only [planesOf, List.mem_toFinset, List.mem_flatMap, List.mem_cons, List.mem_nil_iff, or_false, HasPlane]

/-- stated through a rotation `t'` of the new triple because the step case of `disc_relation` has the rotation that fired -/
theorem planesOf_cons {t' t : Dual} (hr : IsRot t' t) (D : List Dual) :
    planesOf (t :: D) = insert t'.a (insert t'.b (insert t'.c (planesOf D))) := by
  ext j
  rw [mem_planesOf, List.exists_mem_cons_iff, ← hasPlane_isRot hr]
  simp only [Finset.mem_insert, mem_planesOf, HasPlane, or_assoc]

theorem planesOf_mono {R T : List Dual} (h : R ⊆ T) : planesOf R ⊆ planesOf T := fun j hj => by
  obtain ⟨d, hd, hdj⟩ := mem_planesOf.mp hj
  exact mem_planesOf.mpr ⟨d, h hd, hdj⟩

/-- the Euler relation of a disc; `S` = the vertices on the boundary cycle -/
def DiscRel (D : List Dual) (succ : Nat → Nat) : Prop :=
  ∃ S : Finset Nat, (∀ x, x ∈ S ↔ succ x ≠ x) ∧ S ⊆ planesOf D ∧ S.Nonempty ∧
    2 * ((planesOf D).card - S.card) + S.card = D.length + 2

/-- T15.3: every removed region with a `Greedy` run (the reconstruction succeeds and no step closes the surface) is a disc -/
theorem disc_relation {T : List Dual} (hT : (edgesOf T).Nodup) (hlink : ∀ j, LinkConn T j)
    (hdist : ∀ d ∈ T, d.a ≠ d.b ∧ d.b ≠ d.c ∧ d.c ≠ d.a) :
    ∀ {R : List Dual} {succ : Nat → Nat}, Greedy R succ → R ⊆ T → R.Nodup → DiscRel R succ := by
  intro R succ h
  induction h with
  | @init t t' hr hab hbc hca =>
    intro _ _
    rw [triSucc_isRot hr hab hbc hca]
    have hpl : planesOf [t] = {t.a, t.b, t.c} := planesOf_cons (.inl rfl) []
    refine ⟨{t.a, t.b, t.c}, fun x => ?_, hpl.ge, ⟨t.a, Finset.mem_insert_self _ _⟩, ?_⟩
    · rw [triSucc_ne_iff hca, Finset.mem_insert, Finset.mem_insert, Finset.mem_singleton]
    · rw [hpl, Finset.card_eq_three.2 ⟨_, _, _, hab, hca.symm, hbc, rfl⟩]
      rfl
  | @step D succ succ' t t' hD hr hopen hstep ih =>
    intro hsub hnd
    obtain ⟨htT, hDsub⟩ := List.cons_subset.1 hsub
    obtain ⟨htD, hDnd⟩ := List.nodup_cons.1 hnd
    obtain ⟨S, hS, hSsub, _, hrel⟩ := ih hDsub hDnd
    unfold DiscRel
    rw [List.length_cons, planesOf_cons hr]
    rcases aTryRot_eq_some.1 hstep with ⟨hc, rfl⟩ | ⟨hc, rfl⟩
    · -- insert `t'.a` between `t'.c` and `t'.b`: one more boundary vertex, and it is a NEW plane
      have hiS : t'.a ∉ S := fun h => (hS _).1 h hc.1
      have hfresh : t'.a ∉ planesOf D := by
        intro hmem
        obtain ⟨r0, hr0, hr0j⟩ := mem_planesOf.mp hmem
        have hI : Inv succ D := greedy_inv hD (nodup_edgesOf_of_subset hT hDnd hDsub)
        exact htD (interior_gone hT hDsub hI.1 hc.1 (hlink _) hr0 hr0j t htT ((hasPlane_isRot hr _).1 (Or.inl rfl)))
      rw [Finset.insert_eq_of_mem (hSsub ((hS _).2 hc.2.2.1)), Finset.insert_eq_of_mem (hSsub ((hS _).2 hc.2.1))]
      refine ⟨insert t'.a S, fun x => by rw [Finset.mem_insert, hS, ins_ne_iff hc], Finset.insert_subset_insert _ hSsub,
        ⟨_, Finset.mem_insert_self _ _⟩, ?_⟩
      rw [Finset.card_insert_of_notMem hfresh, Finset.card_insert_of_notMem hiS, Nat.add_sub_add_right, ← Nat.add_assoc, hrel]
    · -- close the corner at `t'.b`: it leaves the boundary and becomes interior; no new plane
      have hiS : t'.a ∈ S := (hS _).2 hc.1
      have hjS : t'.b ∈ S := (hS _).2 hc.2.1
      have hkS : t'.c ∈ S := (hS _).2 hc.2.2.1
      have hki : t'.c ≠ t'.a := (distinct_isRot hr (hdist t htT)).2.2
      rw [Finset.insert_eq_of_mem (hSsub hkS), Finset.insert_eq_of_mem (hSsub hjS), Finset.insert_eq_of_mem (hSsub hiS)]
      refine ⟨S.erase t'.b, fun x => by rw [Finset.mem_erase, hS, del_ne_iff hc hki.symm], (Finset.erase_subset _ _).trans hSsub,
        ⟨t'.c, Finset.mem_erase.2 ⟨hc.ne_kj, hkS⟩⟩, ?_⟩
      have hle := Finset.card_le_card hSsub
      have hs := Finset.card_erase_add_one hjS
      omega

section
variable {T R : List Dual} {succ : Nat → Nat} {p : Nat} {S : Finset Nat}

theorem length_clipDuals (hT : T.Nodup) (hRn : R.Nodup) (hR : R ⊆ T) :
    (clipDuals T R p).length = T.length - R.length + (bdry R).length := by
  have h2 : (T.filter fun d => !decide (∀ r ∈ R, d ≠ r)).Perm R := by
    rw [List.perm_ext_iff_of_nodup (hT.filter _) hRn]
    intro d
    simp only [List.mem_filter, Bool.not_eq_true', decide_eq_false_iff_not, not_forall, not_not]
    exact ⟨fun ⟨_, r, hr, e⟩ => e ▸ hr, fun hd => ⟨hR hd, d, hd, rfl⟩⟩
  rw [clipDuals, List.length_append, List.length_map,
    List.length_eq_length_filter_add (l := T) fun d => decide (∀ r ∈ R, d ≠ r), h2.length_eq, Nat.add_sub_cancel]

theorem length_bdry (hI : CInv succ R) (hN : (edgesOf R).Nodup)
    (hS : ∀ x, x ∈ S ↔ succ x ≠ x) : (bdry R).length = S.card := by
  have hfst : ((bdry R).map Prod.fst).Nodup := by
    refine (nodup_bdry hN).map_on ?_
    rintro ⟨x, y⟩ hx ⟨x', y'⟩ hx' (rfl : x = x')
    rw [← (hI.eq_succ hx).1, ← (hI.eq_succ hx').1]
  rw [← List.length_map (f := Prod.fst), ← List.toFinset_card_of_nodup hfst]
  congr 1
  ext x
  rw [List.mem_toFinset, hI.mem_fst_bdry, hS]

/-- the new plane comes, the interior planes of `R` (on no boundary edge: not in the support `S` of the cycle) go -/
theorem planesOf_clipDuals (hT : (edgesOf T).Nodup) (hR : R ⊆ T)
    (hI : Inv succ R) (hlink : ∀ j, LinkConn T j) (hp : ∀ d ∈ T, ¬ HasPlane d p)
    (hS : ∀ x, x ∈ S ↔ succ x ≠ x) (hSsub : S ⊆ planesOf R) (hne : S.Nonempty) :
    planesOf (clipDuals T R p) = insert p (planesOf T \ (planesOf R \ S)) := by
  ext j
  simp only [Finset.mem_insert, Finset.mem_sdiff, not_and, not_not]
  by_cases hjp : j = p
  · obtain ⟨x₀, hx₀⟩ := hne
    subst hjp
    simpa using mem_planesOf.mpr (new_plane_present (hI.1.succ_mem ((hS _).1 hx₀)))
  by_cases hjT : j ∈ planesOf T
  · rw [mem_planesOf, plane_survives_iff hT hR hI hlink hp (mem_planesOf.mp hjT), ← mem_planesOf]
    simp only [hjp, hjT, hS, false_or, true_and, not_and, ne_eq]
  · simp only [hjp, hjT, false_and, or_false, iff_false, mem_planesOf, not_exists, not_and]
    intro d hd hdj
    rcases mem_clip_iff.1 hd with ⟨hdT, _⟩ | ⟨e, he, rfl⟩
    · exact hjT (mem_planesOf.mpr ⟨d, hdT, hdj⟩)
    · exact hjT (planesOf_mono hR (hSsub ((hS j).2 (on_cycle_of_new hI he hdj hjp))))

end

/-- T15.3: if the cell satisfies `V + 4 = 2F` (`V − E + F = 2` with `E = 3V/2`), so does the cell after a successful clip -/
theorem euler_preserved {T R : List Dual} {succ : Nat → Nat} {p : Nat}
    (hT : Closed T) (hTn : T.Nodup) (hlink : ∀ j, LinkConn T j) (hdist : ∀ d ∈ T, d.a ≠ d.b ∧ d.b ≠ d.c ∧ d.c ≠ d.a)
    (hR : R ⊆ T) (hRn : R.Nodup) (hG : Greedy R succ) (hp : ∀ d ∈ T, ¬ HasPlane d p)
    (hE : T.length + 4 = 2 * (planesOf T).card) :
    (clipDuals T R p).length + 4 = 2 * (planesOf (clipDuals T R p)).card := by
  obtain ⟨S, hS, hSsub, hne, hrel⟩ := disc_relation hT.1 hlink hdist hG hR hRn
  have hNR : (edgesOf R).Nodup := nodup_edgesOf_of_subset hT.1 hRn hR
  have hI : Inv succ R := greedy_inv hG hNR
  have hRT := planesOf_mono hR
  have hpT : p ∉ planesOf T \ (planesOf R \ S) := fun h =>
    (mem_planesOf.mp (Finset.mem_sdiff.mp h).1).elim fun d hd => hp d hd.1 hd.2
  have hF : (planesOf (clipDuals T R p)).card = (planesOf T).card - ((planesOf R).card - S.card) + 1 := by
    rw [planesOf_clipDuals hT.1 hR hI hlink hp hS hSsub hne, Finset.card_insert_of_notMem hpT,
      Finset.card_sdiff_of_subset (Finset.sdiff_subset.trans hRT), Finset.card_sdiff_of_subset hSsub]
  rw [length_clipDuals hTn hRn hR, length_bdry hI.1 hNR hS, hF]
  exact euler_arith T.length (planesOf T).card R.length S.card ((planesOf R).card - S.card)
    (List.subperm_of_subset hRn hR).length_le (le_trans (Nat.sub_le _ _) (Finset.card_le_card hRT)) hrel hE

#print axioms MVoro.EulerClip.euler_preserved
end MVoro.EulerClip
