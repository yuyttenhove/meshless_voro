/-
The executable model of `clip_by_plane` (`Model/Clip.clip`), end to end.  `clip_clipped` is the one place where `Clip.clip` is
taken apart.  The result, `CycleBoundary.clipDuals T R p` as a multiset of dual triples, is the list the combinatorial theorems
(`closed_preserved`) and the geometric ones (`Star.step_good`) speak about.
-/
import MVoro.Proofs.CycleWalk

namespace MVoro.ClipModel
open MVoro MVoro.CycleBoundary MVoro.CycleWalk

variable {V : Type}

/-- invariant of the partition loop at the start of `clip_by_plane`, which swaps the removed vertices to the tail -/
structure PInv (removed : V → Bool) (i numV : Nat) (vs : Array V) : Prop where
  le : i ≤ numV
  sz : numV ≤ vs.size
  kept : ∀ k (h : k < vs.size), k < i → removed vs[k] = false
  rem : ∀ k (h : k < vs.size), numV ≤ k → removed vs[k] = true

section
variable {removed : V → Bool} {i numV : Nat} {vs : Array V}

theorem PInv.swap (h : PInv removed i numV vs) (hi : i < numV) (hr : removed (vs[i]'(hi.trans_le h.sz)) = true) :
    PInv removed i (numV - 1) (vs.swapIfInBounds i (numV - 1)) := by
  have hi1 : i ≤ numV - 1 := Nat.le_sub_one_of_lt hi
  refine ⟨hi1, ?_, fun k hk hki => ?_, fun k hk hkn => ?_⟩
  · rw [Array.size_swapIfInBounds]
    exact (Nat.sub_le _ _).trans h.sz
  · rw [Array.getElem_swapIfInBounds_of_ne_of_ne hki.ne (hki.trans_le hi1).ne]
    exact h.kept k _ hki
  · rcases Nat.eq_or_lt_of_le hkn with rfl | hk'
    · rw [Array.getElem_swapIfInBounds_right (hi.trans_le h.sz)]
      exact hr
    · rw [Array.getElem_swapIfInBounds_of_ne_of_ne (hi1.trans_lt hk').ne' hk'.ne']
      exact h.rem k _ (Nat.le_of_pred_lt hk')

theorem PInv.skip (h : PInv removed i numV vs) (hi : i < numV) (hr : removed (vs[i]'(hi.trans_le h.sz)) = false) :
    PInv removed (i + 1) numV vs := by
  refine ⟨hi, h.sz, fun k hk hki => ?_, h.rem⟩
  rcases Nat.eq_or_lt_of_le (Nat.le_of_lt_succ hki) with rfl | hk'
  · exact hr
  · exact h.kept k hk hk'

end

theorem partitionLoop_spec (removed : V → Bool) : ∀ (fuel i numV : Nat) (vs : Array V),
    PInv removed i numV vs → numV - i ≤ fuel →
    ((Clip.partitionLoop removed fuel i numV vs).1.toList.Perm vs.toList) ∧
    PInv removed (Clip.partitionLoop removed fuel i numV vs).2 (Clip.partitionLoop removed fuel i numV vs).2
      (Clip.partitionLoop removed fuel i numV vs).1 := by
  intro fuel i numV vs h hf
  fun_induction Clip.partitionLoop removed fuel i numV vs with
  | case1 | case4 =>
    -- the loop stops with `i = numV`
    have hsz := h.sz
    obtain rfl : _ = _ := Nat.le_antisymm h.le (by omega)
    exact ⟨.refl _, h⟩
  | case2 fuel i numV vs hlt hr ih =>
    obtain ⟨p1, p2⟩ := ih (h.swap hlt.1 hr) (by omega)
    exact ⟨p1.trans (swapIfInBounds_perm _ _ _), p2⟩
  | case3 fuel i numV vs hlt hr ih => exact ih (h.skip hlt.1 (by simpa using hr)) (by omega)

theorem perm_filter_of_split {l k r : List V} {q : V → Bool} (h : (k ++ r).Perm l) (hk : ∀ v ∈ k, q v = false)
    (hr : ∀ v ∈ r, q v = true) : r.Perm (l.filter q) := by
  have := h.filter q
  rwa [List.filter_append, List.filter_eq_nil_iff.2 (fun v hv => by simp [hk v hv]), List.filter_eq_self.2 hr,
    List.nil_append] at this

/-- the one call `Clip.clip` makes: from `0` over the whole array, with more fuel than the `vs.size` passes there can be (each
moves `i` up or `numV` down) -/
theorem partitionLoop_filter (removed : V → Bool) (vs : Array V) {vs₁ : Array V} {numV : Nat}
    (h : Clip.partitionLoop removed (2 * vs.size + 1) 0 vs.size vs = (vs₁, numV)) :
    (vs₁.toList.take numV).Perm (vs.toList.filter fun v => !removed v) ∧
      (vs₁.toList.drop numV).Perm (vs.toList.filter fun v => removed v) := by
  obtain ⟨hperm, hinv⟩ := partitionLoop_spec removed (2 * vs.size + 1) 0 vs.size vs
    ⟨Nat.zero_le _, Nat.le_refl _, fun k _ hk => absurd hk (Nat.not_lt_zero k), fun k hk hge => absurd hk (by omega)⟩ (by omega)
  simp only [h] at hperm hinv
  have hsz : numV ≤ vs₁.size := hinv.sz
  have hkept : ∀ v ∈ vs₁.toList.take numV, removed v = false := by
    intro v hv
    obtain ⟨k, hk, rfl⟩ := List.mem_take_iff_getElem.1 hv
    rw [Array.length_toList] at hk
    exact hinv.kept k (by omega) (by omega)
  have hrem : ∀ v ∈ vs₁.toList.drop numV, removed v = true := by
    intro v hv
    obtain ⟨k, hk, rfl⟩ := List.mem_drop_iff_getElem.1 hv
    rw [Array.length_toList] at hk
    exact hinv.rem (numV + k) (by omega) (by omega)
  have hsplit : (vs₁.toList.take numV ++ vs₁.toList.drop numV).Perm vs.toList := by rwa [List.take_append_drop]
  exact ⟨perm_filter_of_split (List.perm_append_comm.trans hsplit) (fun v hv => by simp [hrem v hv])
    (fun v hv => by simp [hkept v hv]), perm_filter_of_split hsplit hkept hrem⟩

/-- `rem'`: the removed vertices as `compute_boundary` leaves them -/
theorem clip_clipped {dual : V → Dual} {mk : Nat → Nat → Nat → V} {removed : V → Bool} {p : Nat} {cyc cyc' : Cycle}
    {vs out : Array V} (h : Clip.clip dual mk removed p cyc vs = .clipped cyc' out) :
    ∃ (kept : List V) (rem rem' : Array V),
      kept.Perm (vs.toList.filter fun v => !removed v) ∧ rem.toList.Perm (vs.toList.filter fun v => removed v) ∧
      Clip.computeBoundary dual cyc.grow rem = some (cyc', rem') ∧
      out.toList = kept ++ (Clip.pairs cyc'.closedWalk).map fun e => mk e.1 e.2 p := by
  unfold Clip.clip at h
  obtain ⟨vs₁, numV, hpl⟩ : ∃ vs₁ numV, Clip.partitionLoop removed (2 * vs.size + 1) 0 vs.size vs = (vs₁, numV) := ⟨_, _, rfl⟩
  obtain ⟨hk, hr⟩ := partitionLoop_filter removed vs hpl
  simp only [hpl] at h
  split at h
  · cases h
  · split at h
    · cases h
    · next cyc₁ vs₂ hcb =>
      cases h
      refine ⟨vs₁.toList.take numV, _, vs₂, hk, ?_, hcb, by simp [List.extract]⟩
      rwa [show (vs₁.extract numV vs₁.size).toList = vs₁.toList.drop numV by simp [List.extract]]

theorem map_subset_of_filter {dual : V → Dual} {l : List V} {q : V → Bool} : (l.filter q).map dual ⊆ l.map dual :=
  (List.filter_sublist.map dual).subset

theorem mem_map_filter_iff_of_nodup {β : Type} {f : V → β} {l : List V} (h : (l.map f).Nodup) (q : V → Bool) {v : V}
    (hv : v ∈ l) : f v ∈ (l.filter q).map f ↔ q v = true := by
  refine ⟨fun hm => ?_, fun hq => List.mem_map_of_mem (List.mem_filter.2 ⟨hv, hq⟩)⟩
  obtain ⟨w, hw, e⟩ := List.mem_map.1 hm
  rw [← List.inj_on_of_nodup_map h (List.mem_filter.1 hw).1 hv e]
  exact (List.mem_filter.1 hw).2

theorem clip_run {dual : V → Dual} {mk : Nat → Nat → Nat → V} {removed : V → Bool} {p : Nat} {cyc cyc' : Cycle}
    {vs out : Array V}
    (hmk : ∀ x y z, dual (mk x y z) = ⟨x, y, z⟩)
    (hnd : (Cycle.walk cyc.grow.len cyc.grow cyc.grow.start).Nodup)
    (hcov : ∀ x, cyc.grow.get x ≠ x → x ∈ Cycle.walk cyc.grow.len cyc.grow cyc.grow.start)
    (hR : ∀ v ∈ vs.toList, InRange cyc.grow.ptrs.size (dual v) ∧ Distinct (dual v))
    (hT : (edgesOf (vs.toList.map dual)).Nodup)
    (hNC : NoClosedPart ((vs.toList.filter fun v => removed v).map dual))
    (h : Clip.clip dual mk removed p cyc vs = .clipped cyc' out) :
    (∃ R' : List Dual, R'.Perm ((vs.toList.filter fun v => removed v).map dual) ∧ Greedy R' cyc'.get) ∧
    (out.toList.map dual).Perm
      (clipDuals (vs.toList.map dual) ((vs.toList.filter fun v => removed v).map dual) p) := by
  obtain ⟨kept, rem, rem', hk, hr, hcb, hout⟩ := clip_clipped h
  have hRin : ∀ v ∈ rem.toList, InRange cyc.grow.ptrs.size (dual v) ∧ Distinct (dual v) :=
    fun v hv => hR v (List.mem_filter.1 (hr.mem_iff.1 hv)).1
  have hRR := hr.map dual
  have hNR : (edgesOf (rem.toList.map dual)).Nodup :=
    (edgesOf_perm hRR).nodup_iff.2 (hT.sublist ((List.filter_sublist.map dual).flatMap _))
  have hNC' := hNC.mono hRR.subset
  constructor
  · obtain ⟨R', hp, hG⟩ := computeBoundary_run hnd hcov (fun v hv => (hRin v hv).1)
      (fun _ => (hRin _ (Array.getElem_mem_toList _)).2) hNR hNC' hcb
    exact ⟨R', hp.trans hRR, hG⟩
  · rw [hout, List.map_append, List.map_map]
    refine List.Perm.append ?_ ?_
    · -- kept triples: `dual` is injective on the vertices, so "not removed" is "triple not among the removed triples"
      rw [List.filter_map]
      refine (hk.map dual).trans (.of_eq (congrArg _ (List.filter_congr fun v hv => ?_)))
      simp only [Function.comp, List.forall_mem_ne, mem_map_filter_iff_of_nodup (nodup_of_nodup_edgesOf hT) _ hv]
      cases removed v <;> rfl
    · rw [show (dual ∘ fun e : Nat × Nat => mk e.1 e.2 p) = newTri p from funext fun e => hmk _ _ _]
      exact ((computeBoundary_pairs hnd hcov hRin hNR hNC' hcb).trans (bdry_perm_of_perm hRR)).map _

/-- **`clip_by_plane` (model), end to end.**  A successful clip returns the kept triples and one new triple `(cur, next, p)`
per boundary edge of the removed region, as a multiset, whatever the storage order of the vertices (independence of the rotation of
their triples: `ClipOrder`). -/
theorem clip_spec {dual : V → Dual} {mk : Nat → Nat → Nat → V} {removed : V → Bool} {p : Nat} {cyc cyc' : Cycle}
    {vs out : Array V}
    (hmk : ∀ x y z, dual (mk x y z) = ⟨x, y, z⟩)
    (hnd : (Cycle.walk cyc.grow.len cyc.grow cyc.grow.start).Nodup)
    (hcov : ∀ x, cyc.grow.get x ≠ x → x ∈ Cycle.walk cyc.grow.len cyc.grow cyc.grow.start)
    (hR : ∀ v ∈ vs.toList, InRange cyc.grow.ptrs.size (dual v) ∧ Distinct (dual v))
    (hT : (edgesOf (vs.toList.map dual)).Nodup)
    (hNC : ∀ R : List Dual, R.Perm ((vs.toList.filter fun v => removed v).map dual) → NoClosedPart R)
    (h : Clip.clip dual mk removed p cyc vs = .clipped cyc' out) :
    (out.toList.map dual).Perm
      (clipDuals (vs.toList.map dual) ((vs.toList.filter fun v => removed v).map dual) p) :=
  (clip_run hmk hnd hcov hR hT (hNC _ (.refl _)) h).2

#print axioms MVoro.ClipModel.clip_spec
end MVoro.ClipModel
