/-
C20 (T20.1 at full strength for the model): the k-NN search on the grid of `Space::new` with the componentwise placement
(`mkSpace true`) equals the brute-force specification (`knn_mkSpace_eq_spec`).  The hypotheses of `KnnCorrect.knnLoop_eq_spec`
(together `KnnCorrect.RingGrid`) are discharged from `GridWF` (the cells and the binning) and `RingWF` (`get_r_ring`).
-/
import MVoro.Proofs.RingWF
namespace MVoro.KnnFull
open MVoro MVoro.Knn MVoro.KnnProofs MVoro.GridWF MVoro.RingWF MVoro.KnnCorrect List

section Full
variable (anchor width : Q3) (mcw : Rat) (pos : Array Q3)

local notation "CX" => ceilDiv width.x mcw
local notation "CY" => ceilDiv width.y mcw
local notation "CZ" => ceilDiv width.z mcw

variable (hw : 0 < width.x ∧ 0 < width.y ∧ 0 < width.z) (hm : 0 < mcw)
  (hin : ∀ q, q < pos.size →
    (anchor.x ≤ pos[q]!.x ∧ pos[q]!.x < anchor.x + width.x) ∧ (anchor.y ≤ pos[q]!.y ∧ pos[q]!.y < anchor.y + width.y) ∧
    (anchor.z ≤ pos[q]!.z ∧ pos[q]!.z < anchor.z + width.z))
include hw hm hin

/-- hypothesis `hfar`, for a cell at Chebyshev index distance at least `r + 1` -/
theorem far_bound (pid : Nat) (hp : pid < pos.size) (c : Nat) (hc : c < CX * CY * CZ) (q : Nat)
    (hq : q ∈ (cellAt anchor width mcw pos c).parts) (r : Nat)
    (hr : r + 1 ≤ cheb CY CZ c (idxOf anchor width mcw pos pid)) :
    (minDistToFace (cellAt anchor width mcw pos (idxOf anchor width mcw pos pid)) pos[pid]! +
        r * min (min (width.x / CX) (width.y / CY)) (width.z / CZ)) *
      (minDistToFace (cellAt anchor width mcw pos (idxOf anchor width mcw pos pid)) pos[pid]! +
        r * min (min (width.x / CX) (width.y / CY)) (width.z / CZ)) ≤ V3.norm2 (pos[pid]! - pos[q]!) := by
  have hpos : ∀ {w : Rat}, 0 < w → 0 < w / (ceilDiv w mcw : Nat) := fun h =>
    div_pos h (by exact_mod_cast ceilDiv_pos h hm)
  rw [V3.norm2_sub_comm, ← pow_two]
  -- both cells are `anchor + (index triple) ⊙ (cell widths)`; the particle lies in its own cell, `q` in cell `c`
  exact ring_bound_cells (cellAt anchor width mcw pos (idxOf anchor width mcw pos pid)) (cellAt anchor width mcw pos c) anchor
    pos[pid]! pos[q]! _ _ _ _ _ _ r rfl rfl rfl ⟨hpos hw.1, hpos hw.2.1, hpos hw.2.2⟩
    (idxOf_spec hw hm hin pid hp).2 ((cell_box hw hm hin c).2 q hq) hr

/-- hypothesis `hpart` -/
theorem rings_perm (cid : Nat) (hcid : cid < CX * CY * CZ) :
    ((List.range (CX + CY + CZ)).flatMap fun r => (ring (mkSpace true anchor width mcw pos) cid r).flatMap fun c =>
      (mkSpace true anchor width mcw pos).cells[c]!.parts) ~ List.range pos.size := by
  -- the rings hold every cell once (`RingWF`), the cells hold every particle once (`GridWF`)
  have h := (rings_perm_cells (mkSpace true anchor width mcw pos) rfl (ceilDiv_pos hw.2.1 hm) (ceilDiv_pos hw.2.2 hm) cid hcid).flatMap_right
    fun c => (mkSpace true anchor width mcw pos).cells[c]!.parts
  rw [List.flatMap_assoc] at h
  refine h.trans ?_
  have h2 := (mkSpace_wellformed anchor width mcw pos hw hm hin).2
  rw [mkSpace_cells, List.flatMap_map] at h2
  refine (List.Perm.of_eq (List.flatMap_congr fun c hc => ?_)).trans h2
  rw [mkSpace_cell (List.mem_range.1 hc)]

/-- the cell `knn` starts from is the particle's own cell -/
theorem cellOf_eq (pid : Nat) (hp : pid < pos.size) :
    cellOf (mkSpace true anchor width mcw pos) pid = idxOf anchor width mcw pos pid := by
  have hc := (idxOf_spec hw hm hin pid hp).1
  have hsz : (mkSpace true anchor width mcw pos).cells.size = CX * CY * CZ := by rw [mkSpace_cells]; simp
  unfold cellOf
  rw [hsz]
  cases hf : (List.range (CX * CY * CZ)).find? (fun c => (mkSpace true anchor width mcw pos).cells[c]!.parts.contains pid) with
  | none =>
    have := List.find?_eq_none.1 hf _ (List.mem_range.2 hc)
    rw [mkSpace_cell hc, List.contains_iff_mem, mem_parts] at this
    exact absurd ⟨hp, rfl⟩ this
  | some c0 =>
    have h1 := List.find?_some hf
    rw [mkSpace_cell (List.mem_range.1 (List.mem_of_find?_eq_some hf)), List.contains_iff_mem, mem_parts] at h1
    exact h1.2.symm

theorem mkSpace_ringGrid (pid : Nat) (hp : pid < pos.size) :
    let s := mkSpace true anchor width mcw pos
    RingGrid s pid (cellOf s pid) (minDistToFace s.cells[cellOf s pid]! s.pos[pid]!) (CX + CY + CZ) := by
  intro s
  rw [show cellOf s pid = idxOf anchor width mcw pos pid from cellOf_eq anchor width mcw pos hw hm hin pid hp]
  have hy : 0 < CY := ceilDiv_pos hw.2.1 hm
  have hz : 0 < CZ := ceilDiv_pos hw.2.2 hm
  have hs : s.cdim = (CX, CY, CZ) := rfl
  have hcid := (idxOf_spec hw hm hin pid hp).1
  refine ⟨fun r c hc => ?_, fun r hr => ring_empty s hs hy hz _ r hcid hr, fun r r' hrr e he => ?_,
    rings_perm anchor width mcw pos hw hm hin _ hcid⟩
  · show _ ∧ ∀ q ∈ s.cells[c]!.parts, InBox s.cells[c]! pos[q]!
    rw [mkSpace_cell ((mem_ring s hs hy hz _ r c hcid).1 hc).1]
    exact cell_box hw hm hin c
  · obtain ⟨c, hc, he⟩ := List.mem_flatMap.1 he
    obtain ⟨hcN, hch⟩ := (mem_ring s hs hy hz _ r' c hcid).1 hc
    obtain ⟨q, hq, rfl⟩ := List.mem_map.1 he
    rw [mkSpace_cell hcN] at hq
    rw [mkSpace_cell hcid]
    exact far_bound anchor width mcw pos hw hm hin pid hp c hcN q (List.mem_filter.1 hq).1 r (hch ▸ hrr)

theorem knnLoop_mkSpace_entries (k : Nat) (hk : 0 < k) (pid : Nat) (hp : pid < pos.size) :
    let s := mkSpace true anchor width mcw pos
    let res := knnLoop s k pid (cellOf s pid) (minDistToFace s.cells[cellOf s pid]! s.pos[pid]!) (CX + CY + CZ + 2) 0 []
    Sorted res ∧ res.length = min k (pos.size - 1) ∧
      ∀ e ∈ res, e.2 < pos.size ∧ e.2 ≠ pid ∧ e.1 = V3.norm2 (pos[pid]! - pos[e.2]!) :=
  knnLoop_entries _ k pid _ hk _ (CX + CY + CZ) (CX + CY + CZ + 2) (by omega) hp
    (mkSpace_ringGrid anchor width mcw pos hw hm hin pid hp)

/-- T20.1 on that grid: `knn` returns the distances of the `k` nearest other particles in increasing order, for every `k ≥ 1`,
box of positive extents, positive maximal cell width and particles inside the half-open box -/
theorem knn_mkSpace_eq_spec (k : Nat) (hk : 0 < k) :
    (knn (mkSpace true anchor width mcw pos) k).map dists = knnSpec pos k := by
  unfold knn knnSpec
  rw [List.map_map]
  apply List.map_congr_left
  intro pid hpid
  have hp := List.mem_range.1 hpid
  have hk' : (k == 0) = false := by simp; omega
  simp only [Function.comp, hk', Bool.false_eq_true, if_false]
  have h := mkSpace_ringGrid anchor width mcw pos hw hm hin pid hp
  exact knnLoop_eq_spec _ k pid _ hk _ (CX + CY + CZ) (CX + CY + CZ + 2) (by omega) h.box h.ends h.far h.part

end Full

/-- non-vacuity -/
example : (knn (mkSpace true ⟨0, 0, 0⟩ ⟨1, 1, 1⟩ (1 / 2) #[⟨1 / 4, 1 / 4, 1 / 4⟩, ⟨3 / 4, 1 / 2, 1 / 8⟩]) 1).map dists =
    knnSpec #[⟨1 / 4, 1 / 4, 1 / 4⟩, ⟨3 / 4, 1 / 2, 1 / 8⟩] 1 := by
  apply knn_mkSpace_eq_spec
  · norm_num
  · norm_num
  · intro q hq
    have : q = 0 ∨ q = 1 := by simp at hq; omega
    rcases this with rfl | rfl <;> norm_num
  · omega

#print axioms MVoro.KnnFull.knn_mkSpace_eq_spec
#print axioms MVoro.KnnFull.knnLoop_mkSpace_entries
end MVoro.KnnFull
