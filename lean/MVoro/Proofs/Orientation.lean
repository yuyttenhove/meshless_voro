/-
T10.5 (DESIGN §6 C10): the exact in-sphere test only means "inside the circumsphere" for a vertex whose dual triple is
positively oriented.  `clip_by_plane` creates a vertex with dual `(cur, next, p)` for every edge `cur → next` of the boundary
cycle of the removed region.  Such a triple IS positively oriented — an algebraic fact about the two determinants the code
uses, over any commutative ordered ring, by a three-term Grassmann–Plücker relation.

Setting (`g` the generator, the others neighbour positions):
* the directed edge `a → b` lies on the boundary of the removed region: the vertex `(a, b, c)` on its left is REMOVED
  (exact decision: `inSphereDet g a b c p < 0` with `orient g a b c > 0`), the vertex `(b, a, d)` across the edge is KEPT
  (`inSphereDet g b a d p ≥ 0` with `orient g b a d > 0`);
* the cell was locally Delaunay at that edge before the clip: `d` is not strictly inside the circumsphere of `g a b c`
  (`inSphereDet g a b c d ≥ 0`) — `Star.clip_edge` obtains it from feasibility through `Star.inSphere_eq_gap`.
Then `orient g a b p > 0`, and the new vertex `(a, b, p)` is again locally Delaunay against the kept vertex `(b, a, d)`.
-/
import MVoro.Proofs.InSphereDet
import Mathlib.Tactic.Linarith
import Mathlib.Algebra.Order.Ring.Defs

namespace MVoro.Orientation
open MVoro Ref MVoro.InSphereProofs

section Ring
variable {α : Type} [CommRing α]

/-- T10.5a (the lifted coordinate may even be arbitrary: `det4_plucker` holds for any five lifted vectors) -/
theorem grassmann_pluecker (g a b c d p : I3 α) :
    orient g a b p * inSphereDet g a b c d - orient g a b c * inSphereDet g a b p d
      + orient g a b d * inSphereDet g a b p c = 0 := det4_plucker _ _ _ _ _

end Ring

section Ordered
variable {α : Type} [CommRing α] [LinearOrder α] [IsStrictOrderedRing α]

/-- T10.5b; second conjunct: the old cell was in fact strictly Delaunay at the edge -/
theorem new_triple_oriented (g a b c d p : I3 α)
    (hv : 0 < orient g a b c) (hw : 0 < orient g b a d)
    (hremoved : inSphereDet g a b c p < 0) (hkept : 0 ≤ inSphereDet g b a d p)
    (hdel : 0 ≤ inSphereDet g a b c d) :
    0 < orient g a b p ∧ 0 < inSphereDet g a b c d := by
  have gp := grassmann_pluecker g a b c d p
  -- in the argument order `g a b · ·`: orient(gabp) · I(gabcd) = orient(gabc) · (-I(gabdp)) + (-orient(gabd)) · (-I(gabcp))
  rw [inSphereDet_swap_dv g a b d p, inSphereDet_swap_dv g a b c p] at gp
  rw [orient_swap_bc g a b d] at hw
  rw [inSphereDet_swap_bc g a b d p] at hkept
  have t1 : 0 ≤ orient g a b c * (- inSphereDet g a b d p) := mul_nonneg hv.le hkept
  have t2 : 0 < (- orient g a b d) * (- inSphereDet g a b c p) := mul_pos hw (neg_pos.mpr hremoved)
  have hprod : 0 < orient g a b p * inSphereDet g a b c d := by linarith
  have hpos : 0 < inSphereDet g a b c d :=
    hdel.lt_of_ne' (fun h0 => by rw [h0, mul_zero] at hprod; exact lt_irrefl _ hprod)
  exact ⟨pos_of_mul_pos_left hprod hpos.le, hpos⟩

omit [IsStrictOrderedRing α] in
/-- T10.5c -/
theorem new_vertex_delaunay_vs_kept (g a b d p : I3 α) (hkept : 0 ≤ inSphereDet g b a d p) :
    0 ≤ inSphereDet g a b p d := by
  rwa [inSphereDet_swap_dv g a b d p, ← inSphereDet_swap_bc g a b d p]

end Ordered

/-- non-vacuity -/
example : let g : I3 Int := ⟨0, 0, 0⟩; let a : I3 Int := ⟨4, 0, 0⟩; let b : I3 Int := ⟨0, 4, 0⟩
    let c : I3 Int := ⟨0, 0, 4⟩; let d : I3 Int := ⟨0, 0, -4⟩; let p : I3 Int := ⟨1, 1, 3⟩
    0 < orient g a b c ∧ 0 < orient g b a d ∧ inSphereDet g a b c p < 0 ∧ 0 ≤ inSphereDet g b a d p ∧ 0 ≤ inSphereDet g a b c d ∧
      0 < orient g a b p := by decide

#print axioms MVoro.Orientation.new_triple_oriented
end MVoro.Orientation
