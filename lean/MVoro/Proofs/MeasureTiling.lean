/-
C02 (T02.2), the measure-theoretic statement: for finitely many pairwise different generators in a finite-dimensional real
inner-product space with any Haar measure `μ` (Lebesgue measure = length / area / volume), the measures of the cells
`Vor G i ∩ B` sum to the measure of the box `B` (`sum_measure_eq`), and a cell whose generator lies in a convex box with
non-empty interior has positive measure, also for a generator on a face, an edge or a corner (`cell_measure_pos`).

`VorSet.run_eq_voronoi` says that the clipping loop over a list `qs` of candidates returns
`{x ∈ B | ∀ q ∈ qs, dist x g ≤ dist x q}`; that this set is `Vor G i ∩ B` when `qs` lists the other generators is not stated
as a theorem.  The identification of the code's tetrahedron sum with `μ` of that set is trusted-base item 2 of DESIGN §4 and
is certified per run (exact rational volumes sum exactly to the box volume).
-/
import MVoro.Proofs.VorSet
import Mathlib.MeasureTheory.Measure.Lebesgue.EqHaar
import Mathlib.MeasureTheory.Measure.OpenPos
import Mathlib.Geometry.Euclidean.PerpBisector
import Mathlib.Analysis.Convex.Topology
import Mathlib.MeasureTheory.Measure.Haar.InnerProductSpace

namespace MVoro.MeasureTiling
open MVoro.VorSet MeasureTheory Set

variable {E : Type*} [NormedAddCommGroup E]

theorem isClosed_Vor {ι : Type*} (G : ι → E) (i : ι) : IsClosed (Vor G i) := by
  rw [Vor, Set.ofPred_forall]
  exact isClosed_iInter fun j => isClosed_le (continuous_id.dist continuous_const) (continuous_id.dist continuous_const)

theorem ball_subset_Vor {ι : Type*} (G : ι → E) (i : ι) {r : ℝ} (hr : ∀ j, G j ≠ G i → 2 * r ≤ dist (G i) (G j)) :
    Metric.ball (G i) r ⊆ Vor G i := by
  intro x hx j
  rw [Metric.mem_ball] at hx
  by_cases h : G j = G i
  · rw [h]
  · linarith [hr j h, dist_triangle_left (G i) (G j) x]

variable [InnerProductSpace ℝ E] [FiniteDimensional ℝ E] [MeasurableSpace E] [BorelSpace E]

omit [InnerProductSpace ℝ E] [FiniteDimensional ℝ E] in
theorem measurableSet_Vor {ι : Type*} (G : ι → E) (i : ι) : MeasurableSet (Vor G i) :=
  (isClosed_Vor G i).measurableSet

/-- they meet inside the perpendicular bisector, a proper affine subspace -/
theorem overlap_null {ι : Type*} (G : ι → E) (μ : Measure E) [μ.IsAddHaarMeasure] {i j : ι} (h : G i ≠ G j) :
    μ (Vor G i ∩ Vor G j) = 0 :=
  measure_mono_null (fun _ hx => AffineSubspace.mem_perpBisector_iff_dist_eq.mpr (overlap_on_bisector G i j hx))
    (Measure.addHaar_affineSubspace μ _ (mt AffineSubspace.perpBisector_eq_top.1 h))

/-- C02, for any measurable set `B` -/
theorem sum_measure_eq {ι : Type*} [Fintype ι] [Nonempty ι] (G : ι → E) (hG : Function.Injective G)
    (μ : Measure E) [μ.IsAddHaarMeasure] (B : Set E) (hB : MeasurableSet B) :
    ∑ i, μ (Vor G i ∩ B) = μ B := by
  conv_rhs => rw [← Set.univ_inter B, ← cover_univ G, Set.iUnion_inter]
  rw [measure_iUnion₀
    (fun i j hij => AEDisjoint.mono (overlap_null G μ (hG.ne hij)) inter_subset_left inter_subset_left)
    (fun i => ((measurableSet_Vor G i).inter hB).nullMeasurableSet), tsum_fintype]

-- the statement names the space of `sum_measure_eq`; the proof needs neither the dimension nor the Borel structure
set_option linter.unusedSectionVars false in
/-- C02; generators on the boundary of the box included -/
theorem cell_measure_pos {ι : Type*} [Fintype ι] (G : ι → E)
    (μ : Measure E) [μ.IsAddHaarMeasure] (B : Set E) (hconv : Convex ℝ B) (hint : (interior B).Nonempty)
    (i : ι) (hi : G i ∈ B) : 0 < μ (Vor G i ∩ B) := by
  -- a radius below half the distance to every other generator: the other generators form a closed set
  obtain ⟨r, hr0, hr⟩ : ∃ r : ℝ, 0 < r ∧ ∀ j, G j ≠ G i → 2 * r ≤ dist (G i) (G j) := by
    have hcl : IsClosed {p | p ≠ G i ∧ p ∈ Set.range G} := ((Set.finite_range G).subset fun _ h => h.2).isClosed
    obtain ⟨ε, hε, hball⟩ := Metric.isOpen_iff.1 hcl.isOpen_compl (G i) fun h => h.1 rfl
    refine ⟨ε / 2, half_pos hε, fun j hj => ?_⟩
    rw [mul_div_cancel₀ _ two_ne_zero, dist_comm]
    exact not_lt.1 fun hlt => hball (Metric.mem_ball.2 hlt) ⟨hj, j, rfl⟩
  -- the generator lies in the closure of the interior of the box, so that ball meets the interior
  have hcl : G i ∈ closure (interior B) := by
    rw [hconv.closure_interior_eq_closure_of_nonempty_interior hint]; exact subset_closure hi
  obtain ⟨y, hyint, hy⟩ := Metric.mem_closure_iff.1 hcl r hr0
  have hyball : y ∈ Metric.ball (G i) r := Metric.mem_ball'.2 hy
  have hU : IsOpen (interior B ∩ Metric.ball (G i) r) := isOpen_interior.inter Metric.isOpen_ball
  have hpos : 0 < μ (interior B ∩ Metric.ball (G i) r) := hU.measure_pos μ ⟨y, hyint, hyball⟩
  refine lt_of_lt_of_le hpos (measure_mono ?_)
  intro x hx
  exact ⟨ball_subset_Vor G i hr hx.2, interior_subset hx.1⟩

/-- non-vacuity: two generators on the real line, the unit interval as box -/
example : ∑ i : Fin 2, volume (Vor (![0, 1] : Fin 2 → ℝ) i ∩ Icc 0 1) = volume (Icc (0 : ℝ) 1) :=
  sum_measure_eq _ (by intro a b h; fin_cases a <;> fin_cases b <;> simp_all) volume _ measurableSet_Icc

example : 0 < volume (Vor (![0, 1] : Fin 2 → ℝ) 0 ∩ Icc 0 1) :=
  cell_measure_pos _ volume _ (convex_Icc 0 1)
    (by rw [interior_Icc]; exact ⟨1/2, by norm_num, by norm_num⟩) 0 (by simp)

end MVoro.MeasureTiling
