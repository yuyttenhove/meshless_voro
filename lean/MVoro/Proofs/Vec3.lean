/-
Algebra of the model's 3-vectors over the reals, stated on vectors (namespace `MVoro.V3`).  The geometry files reason with
these where an identity is one of vectors, and expand into components (`add_x` … `dot_def`) where it is a polynomial identity
of its own.  The component lemmas keep the names under which the other files know them, `MVoro.GeomHelpers.*` and
`MVoro.Obl.divs_*`; they stand here because the algebra's proofs use them.
-/
import MVoro.Model.Geom
import Mathlib.Data.Real.Basic
import Mathlib.Tactic.Ring
import Mathlib.Tactic.Linarith

namespace MVoro.GeomHelpers

open MVoro

@[simp] theorem add_x (a b : V3 ℝ) : (a + b).x = a.x + b.x := rfl
@[simp] theorem add_y (a b : V3 ℝ) : (a + b).y = a.y + b.y := rfl
@[simp] theorem add_z (a b : V3 ℝ) : (a + b).z = a.z + b.z := rfl
@[simp] theorem sub_x (a b : V3 ℝ) : (a - b).x = a.x - b.x := rfl
@[simp] theorem sub_y (a b : V3 ℝ) : (a - b).y = a.y - b.y := rfl
@[simp] theorem sub_z (a b : V3 ℝ) : (a - b).z = a.z - b.z := rfl
@[simp] theorem smul_x (k : ℝ) (a : V3 ℝ) : (V3.smul k a).x = k * a.x := rfl
@[simp] theorem smul_y (k : ℝ) (a : V3 ℝ) : (V3.smul k a).y = k * a.y := rfl
@[simp] theorem smul_z (k : ℝ) (a : V3 ℝ) : (V3.smul k a).z = k * a.z := rfl
@[simp] theorem cross_x (a b : V3 ℝ) : (V3.cross a b).x = a.y * b.z - b.y * a.z := rfl
@[simp] theorem cross_y (a b : V3 ℝ) : (V3.cross a b).y = a.z * b.x - b.z * a.x := rfl
@[simp] theorem cross_z (a b : V3 ℝ) : (V3.cross a b).z = a.x * b.y - b.x * a.y := rfl

theorem dot_def (a b : V3 ℝ) : V3.dot a b = a.x * b.x + a.y * b.y + a.z * b.z := rfl

end MVoro.GeomHelpers

namespace MVoro.Obl

@[simp] theorem divs_x (a : V3 ℝ) (k : ℝ) : (V3.divs a k).x = a.x / k := rfl
@[simp] theorem divs_y (a : V3 ℝ) (k : ℝ) : (V3.divs a k).y = a.y / k := rfl
@[simp] theorem divs_z (a : V3 ℝ) (k : ℝ) : (V3.divs a k).z = a.z / k := rfl

end MVoro.Obl

namespace MVoro.V3

open MVoro MVoro.GeomHelpers MVoro.Obl

variable (k : ℝ) (a b c d : V3 ℝ)

theorem ext' {a b : V3 ℝ} (hx : a.x = b.x) (hy : a.y = b.y) (hz : a.z = b.z) : a = b := by
  cases a; cases b; simp_all

/-- `dot` is non-degenerate: an identity of vectors follows from one of scalars, by bilinearity -/
theorem ext_of_dot {a b : V3 ℝ} (h : ∀ w, V3.dot w a = V3.dot w b) : a = b := by
  have hx := h ⟨1, 0, 0⟩
  have hy := h ⟨0, 1, 0⟩
  have hz := h ⟨0, 0, 1⟩
  simp only [dot_def, one_mul, zero_mul, add_zero, zero_add] at hx hy hz
  exact ext' hx hy hz

/-! `V3` carries no group instance: the laws of addition the proofs use -/

theorem add_sub_cancel_left : a + b - a = b :=
  ext' (_root_.add_sub_cancel_left _ _) (_root_.add_sub_cancel_left _ _) (_root_.add_sub_cancel_left _ _)
theorem add_sub_cancel_right : a + b - b = a :=
  ext' (_root_.add_sub_cancel_right _ _) (_root_.add_sub_cancel_right _ _) (_root_.add_sub_cancel_right _ _)
theorem sub_add_eq : a - (b + c) = a - c - b :=
  ext' (sub_add_eq_sub_sub_swap _ _ _) (sub_add_eq_sub_sub_swap _ _ _) (sub_add_eq_sub_sub_swap _ _ _)
theorem sub_eq_sub_add_sub : a - c = (a - b) + (b - c) :=
  ext' (sub_add_sub_cancel _ _ _).symm (sub_add_sub_cancel _ _ _).symm (sub_add_sub_cancel _ _ _).symm
theorem add_smul_zero : a + V3.smul 0 b = a := by
  apply ext' <;> simp only [add_x, add_y, add_z, smul_x, smul_y, smul_z] <;> ring

theorem norm2_eq_dot : V3.norm2 a = V3.dot a a := rfl
theorem det3cols_eq_dot : det3cols a b c = V3.dot c (V3.cross a b) := rfl

theorem dot_comm : V3.dot a b = V3.dot b a := by simp only [dot_def]; ring
theorem dot_add_left : V3.dot (a + b) c = V3.dot a c + V3.dot b c := by simp only [dot_def, add_x, add_y, add_z]; ring
theorem dot_add_right : V3.dot a (b + c) = V3.dot a b + V3.dot a c := by simp only [dot_def, add_x, add_y, add_z]; ring
theorem dot_sub_left : V3.dot (a - b) c = V3.dot a c - V3.dot b c := by simp only [dot_def, sub_x, sub_y, sub_z]; ring
theorem dot_sub_right : V3.dot a (b - c) = V3.dot a b - V3.dot a c := by simp only [dot_def, sub_x, sub_y, sub_z]; ring
theorem dot_smul_left : V3.dot (V3.smul k a) b = k * V3.dot a b := by simp only [dot_def, smul_x, smul_y, smul_z]; ring
theorem dot_smul_right : V3.dot a (V3.smul k b) = k * V3.dot a b := by simp only [dot_def, smul_x, smul_y, smul_z]; ring

/-- over any ordered ring, so that the exact checker over `ℚ` (`MEBProofs`) shares it -/
theorem norm2_nonneg {K : Type} [Ring K] [LinearOrder K] [IsStrictOrderedRing K] (a : V3 K) : 0 ≤ V3.norm2 a :=
  add_nonneg (add_nonneg (mul_self_nonneg a.x) (mul_self_nonneg a.y)) (mul_self_nonneg a.z)

theorem norm2_sub_def {K : Type} [Add K] [Sub K] [Mul K] (a b : V3 K) :
    V3.norm2 (a - b) = (a.x - b.x) * (a.x - b.x) + (a.y - b.y) * (a.y - b.y) + (a.z - b.z) * (a.z - b.z) := rfl

theorem norm2_sub_comm {K : Type} [CommRing K] (a b : V3 K) : V3.norm2 (a - b) = V3.norm2 (b - a) := by
  rw [norm2_sub_def, norm2_sub_def]; ring

theorem eq_of_norm2_sub_eq_zero {a b : V3 ℝ} (h : V3.norm2 (a - b) = 0) : a = b := by
  rw [norm2_eq_dot, dot_def, sub_x, sub_y, sub_z,
    add_eq_zero_iff_of_nonneg (add_nonneg (mul_self_nonneg _) (mul_self_nonneg _)) (mul_self_nonneg _),
    mul_self_add_mul_self_eq_zero, mul_self_eq_zero, sub_eq_zero, sub_eq_zero, sub_eq_zero] at h
  exact ext' h.1.1 h.1.2 h.2

theorem norm2_pos_of_ne {a b : V3 ℝ} (h : a ≠ b) : 0 < V3.norm2 (a - b) :=
  lt_of_le_of_ne (norm2_nonneg _) fun h0 => h (eq_of_norm2_sub_eq_zero h0.symm)

theorem norm2_sub : V3.norm2 (a - b) = V3.norm2 a - 2 * V3.dot a b + V3.norm2 b := by
  simp only [norm2_eq_dot, dot_sub_left, dot_sub_right, dot_comm b a]; ring

/-- the bisector of `g` and `q`: how much farther `x` is from `q` than from `g` is linear in `x` -/
theorem distance2_sub_distance2 (g q x : V3 ℝ) :
    V3.distance2 x q - V3.distance2 x g = 2 * (V3.dot (g - q) x - V3.dot (g - q) (V3.smul (1 / 2) (g + q))) := by
  rw [V3.distance2, V3.distance2, norm2_sub, norm2_sub]
  simp only [norm2_eq_dot, dot_sub_left, dot_smul_right, dot_add_right, dot_comm x, dot_comm q g]
  ring

theorem norm2_add : V3.norm2 (a + b) = V3.norm2 a + 2 * V3.dot a b + V3.norm2 b := by
  simp only [norm2_eq_dot, dot_add_left, dot_add_right, dot_comm b a]; ring

theorem norm2_smul : V3.norm2 (V3.smul k a) = k ^ 2 * V3.norm2 a := by
  simp only [norm2_eq_dot, dot_smul_left, dot_smul_right]; ring

theorem cross_anticomm : V3.cross b a = V3.smul (-1) (V3.cross a b) := by
  apply ext' <;> simp only [cross_x, cross_y, cross_z, smul_x, smul_y, smul_z] <;> ring

theorem dot_cross_self_left : V3.dot a (V3.cross a b) = 0 := by simp only [dot_def, cross_x, cross_y, cross_z]; ring
theorem dot_cross_self_right : V3.dot b (V3.cross a b) = 0 := by simp only [dot_def, cross_x, cross_y, cross_z]; ring

theorem dot_cross_cyc : V3.dot a (V3.cross b c) = V3.dot c (V3.cross a b) := by
  simp only [dot_def, cross_x, cross_y, cross_z]; ring

theorem dot_cross_swap : V3.dot c (V3.cross b a) = -V3.dot c (V3.cross a b) := by
  rw [cross_anticomm, dot_smul_right]; ring

theorem det3cols_swap12 : det3cols b a c = -det3cols a b c := dot_cross_swap a b c

theorem det3cols_swap23 : det3cols a c b = -det3cols a b c := by
  rw [det3cols_eq_dot, ← dot_cross_cyc, dot_cross_swap, dot_cross_cyc, det3cols_eq_dot]

/-- Binet–Cauchy; Lagrange's identity is the case `c = a`, `d = b` -/
theorem dot_cross_cross : V3.dot (V3.cross a b) (V3.cross c d) = V3.dot a c * V3.dot b d - V3.dot a d * V3.dot b c := by
  simp only [dot_def, cross_x, cross_y, cross_z]; ring

theorem norm2_cross : V3.norm2 (V3.cross a b) = V3.norm2 a * V3.norm2 b - V3.dot a b ^ 2 := by
  rw [norm2_eq_dot, dot_cross_cross, dot_comm b a]; simp only [norm2_eq_dot]; ring

theorem dot_divs_left : V3.dot (V3.divs a k) b = V3.dot a b / k := by
  simp only [dot_def, divs_x, divs_y, divs_z]; ring

theorem dot_divs_right : V3.dot a (V3.divs b k) = V3.dot a b / k := by
  rw [dot_comm, dot_divs_left, dot_comm]

/-- `b×c, c×a, a×b` over `det` is the dual basis of `a, b, c` -/
theorem dot_dual (x y z : ℝ) (h : det3cols a b c ≠ 0) :
    V3.dot a (V3.divs (V3.smul x (V3.cross b c) + V3.smul y (V3.cross c a) + V3.smul z (V3.cross a b)) (det3cols a b c)) = x ∧
    V3.dot b (V3.divs (V3.smul x (V3.cross b c) + V3.smul y (V3.cross c a) + V3.smul z (V3.cross a b)) (det3cols a b c)) = y ∧
    V3.dot c (V3.divs (V3.smul x (V3.cross b c) + V3.smul y (V3.cross c a) + V3.smul z (V3.cross a b)) (det3cols a b c)) = z := by
  simp only [dot_divs_right, dot_add_right, dot_smul_right, dot_cross_self_left, dot_cross_self_right, dot_cross_cyc a b c,
    (dot_cross_cyc c a b).symm, ← det3cols_eq_dot, mul_zero, add_zero, zero_add, mul_div_cancel_right₀ _ h, and_self]

theorem cramer : V3.smul (det3cols a b c) d
    = V3.smul (V3.dot a d) (V3.cross b c) + V3.smul (V3.dot b d) (V3.cross c a) + V3.smul (V3.dot c d) (V3.cross a b) := by
  apply ext' <;> simp only [det3cols_eq_dot, dot_def, cross_x, cross_y, cross_z, smul_x, smul_y, smul_z, add_x, add_y, add_z]
    <;> ring

theorem eq_divs_of_smul_eq {k : ℝ} {a b : V3 ℝ} (hk : k ≠ 0) (h : V3.smul k a = b) : a = V3.divs b k := by
  subst h
  apply ext' <;> simp only [divs_x, divs_y, divs_z, smul_x, smul_y, smul_z, mul_div_cancel_left₀ _ hk]

end MVoro.V3
