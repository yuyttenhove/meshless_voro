/-
Set-level mathematics behind the meshless Voronoi construction, in an arbitrary real inner product space `E`.

C01, C16 the clipping loop: a cell of generator `g` starts as a box `B` and is intersected with half spaces `HS g q` for
candidates `q` visited in order of distance from `g`; the loop `run` stops as soon as `safety_radius < dist g q`, where
`safety_radius` is twice the radius of a ball around `g` containing the current cell.  Then the regions `Vor G i` of a family of
sites and their faces `face G i j` (C02, C03, C06, C08).
-/
import Mathlib.Analysis.InnerProductSpace.Basic
import Mathlib.Analysis.InnerProductSpace.Projection.Basic
import Mathlib.Analysis.Convex.Hull
import Mathlib.Analysis.Normed.Module.Convex
import Mathlib.Data.Fintype.Lattice
import Mathlib.Tactic.Linarith
import Mathlib.Tactic.Ring
import Mathlib.Tactic.NormNum

namespace MVoro.VorSet

variable {E : Type*} [NormedAddCommGroup E] [InnerProductSpace ℝ E]

-- some theorems are stated for the inner product space although they use its metric only
set_option linter.unusedSectionVars false

/-- the half space the code builds for neighbour position q of generator g -/
def HS (g q : E) : Set E := {x | 0 ≤ inner ℝ (g - q) (x - (1/2 : ℝ) • (g + q))}

/-- the defining form of `HS` measures the difference of squared distances -/
theorem two_mul_inner_eq (g q x : E) :
    2 * inner ℝ (g - q) (x - (1/2 : ℝ) • (g + q)) = dist x q ^ 2 - dist x g ^ 2 := by
  rw [dist_eq_norm, dist_eq_norm, norm_sub_sq_real, norm_sub_sq_real]
  simp only [inner_sub_left, inner_sub_right, inner_smul_right, inner_add_right,
    real_inner_self_eq_norm_sq]
  rw [real_inner_comm x g, real_inner_comm x q, real_inner_comm g q]
  ring

theorem mem_HS_iff (g q x : E) : x ∈ HS g q ↔ dist x g ≤ dist x q := by
  rw [← pow_le_pow_iff_left₀ dist_nonneg dist_nonneg two_ne_zero, ← sub_nonneg, ← two_mul_inner_eq]
  exact (mul_nonneg_iff_of_pos_left (by norm_num : (0 : ℝ) < 2)).symm

theorem convex_HS (g q : E) : Convex ℝ (HS g q) := by
  -- a half space `{x | c ≤ ⟨g - q, x⟩}`
  have h := convex_halfSpace_ge (𝕜 := ℝ) (f := fun x : E => inner ℝ (g - q) x)
    ⟨fun _ _ => inner_add_right _ _ _, fun _ _ => inner_smul_right _ _ _⟩
    (inner ℝ (g - q) ((1/2 : ℝ) • (g + q)))
  simpa only [HS, inner_sub_right, sub_nonneg] using h

theorem gen_mem_HS (g q : E) : g ∈ HS g q := by
  rw [mem_HS_iff, dist_self]; exact dist_nonneg

theorem gen_mem_HS_strict (g q : E) (h : q ≠ g) :
    0 < inner ℝ (g - q) (g - (1/2 : ℝ) • (g + q)) := by
  have h1 := two_mul_inner_eq g q g
  rw [dist_self, zero_pow two_ne_zero, sub_zero] at h1
  exact (mul_pos_iff_of_pos_left (zero_lt_two' ℝ)).1 (h1 ▸ pow_pos (dist_pos.2 h.symm) 2)

example : (0 : ℝ) < inner ℝ ((0 : ℝ) - 1) ((0 : ℝ) - (1/2 : ℝ) • ((0 : ℝ) + 1)) :=
  gen_mem_HS_strict (0 : ℝ) 1 one_ne_zero

/-- C16 security radius: a set inside the ball of radius `R` around `g` is untouched by any `q` farther than `2 R` -/
theorem security_radius {S : Set E} {g q : E} {R : ℝ}
    (hS : S ⊆ Metric.closedBall g R) (hq : 2 * R < dist g q) : S ∩ HS g q = S := by
  apply Set.inter_eq_left.2
  intro x hx
  rw [mem_HS_iff]
  have h1 : dist x g ≤ R := Metric.mem_closedBall.1 (hS hx)
  linarith [dist_triangle_left g q x]

example : (Set.Icc (-1 : ℝ) 1) ∩ HS (0 : ℝ) 3 = Set.Icc (-1 : ℝ) 1 := by
  apply security_radius (R := 1)
  · intro x hx
    rw [Metric.mem_closedBall, Real.dist_eq, sub_zero, abs_le]
    exact hx
  · rw [Real.dist_eq]; norm_num

/-- T16.3: further candidates beyond the safety radius of the finished cell change nothing -/
theorem add_far_unchanged {S : Set E} {g : E} {R : ℝ} (far : List E)
    (hS : S ⊆ Metric.closedBall g R) (hfar : ∀ q ∈ far, 2 * R < dist g q) :
    S ∩ ⋂ q ∈ far, HS g q = S :=
  Set.inter_eq_left.2 fun _ hx => Set.mem_iInter₂.2 fun q hq =>
    Set.inter_eq_left.1 (security_radius hS (hfar q hq)) hx

open Classical in
/-- the clipping loop with early termination; `rad S` is the radius the code derives from the current cell -/
noncomputable def run (g : E) (rad : Set E → ℝ) : Set E → List E → Set E
  | S, [] => S
  | S, q :: qs => if 2 * rad S < dist g q then S else run g rad (S ∩ HS g q) qs

/-- the invariant of the loop -/
theorem run_eq_inter_aux (g : E) (rad : Set E → ℝ) (B : Set E)
    (hrad : ∀ S : Set E, S ⊆ B → S ⊆ Metric.closedBall g (rad S)) {qs : List E}
    (hsorted : qs.Pairwise (fun a b => dist g a ≤ dist g b)) {S : Set E} (hSB : S ⊆ B) :
    run g rad S qs = S ∩ ⋂ q ∈ qs, HS g q := by
  induction qs generalizing S with
  | nil => simp [run]
  | cons q qs ih =>
    obtain ⟨hq, hqs⟩ := List.pairwise_cons.1 hsorted
    rw [run]
    split_ifs with hfar
    · -- the loop stops: `q` is too far, and the candidates after it are at least as far
      exact (add_far_unchanged (q :: qs) (hrad S hSB)
        (List.forall_mem_cons.2 ⟨hfar, fun q' hq' => hfar.trans_le (hq q' hq')⟩)).symm
    · rw [ih hqs (Set.inter_subset_left.trans hSB), Set.inter_assoc]
      simp only [List.mem_cons, Set.iInter_iInter_eq_or_left]

/-- T01.1: for candidates sorted by distance and any valid radius function the loop computes the full intersection -/
theorem run_eq_inter (g : E) (rad : Set E → ℝ) (B : Set E) (qs : List E)
    (hsorted : qs.Pairwise (fun a b => dist g a ≤ dist g b))
    (hrad : ∀ S : Set E, S ⊆ B → S ⊆ Metric.closedBall g (rad S)) :
    run g rad B qs = B ∩ ⋂ q ∈ qs, HS g q :=
  run_eq_inter_aux g rad B hrad hsorted subset_rfl

theorem run_eq_voronoi (g : E) (rad : Set E → ℝ) (B : Set E) (qs : List E)
    (hsorted : qs.Pairwise (fun a b => dist g a ≤ dist g b))
    (hrad : ∀ S : Set E, S ⊆ B → S ⊆ Metric.closedBall g (rad S)) :
    run g rad B qs = {x ∈ B | ∀ q ∈ qs, dist x g ≤ dist x q} := by
  rw [run_eq_inter g rad B qs hsorted hrad]
  ext x
  simp only [Set.mem_inter_iff, Set.mem_iInter, mem_HS_iff, Set.mem_ofPred_eq]

/-- non-vacuity of `run_eq_inter`; the loop stops early, at `3` -/
example : run (0 : ℝ) (fun _ => 1) (Set.Icc (-1 : ℝ) 1) [1, 3]
    = Set.Icc (-1 : ℝ) 1 ∩ ⋂ q ∈ [(1 : ℝ), 3], HS (0 : ℝ) q := by
  apply run_eq_inter
  · simp [Real.dist_eq]
  · intro S hS x hx
    rw [Metric.mem_closedBall, Real.dist_eq, sub_zero, abs_le]
    exact hS hx

/-- T16.1: the radius the code takes from the vertices (the farthest vertex) bounds the whole cell, as `run_eq_inter` asks
of `rad` -/
theorem hull_subset_ball {V : Set E} {g : E} {R : ℝ} (hV : V ⊆ Metric.closedBall g R) :
    convexHull ℝ V ⊆ Metric.closedBall g R :=
  convexHull_min hV (convex_closedBall g R)

/-- T01.2: a candidate whose half space contains all vertices can be dropped -/
theorem drop_unclipped {S V : Set E} {g q : E} (hS : S ⊆ convexHull ℝ V) (hV : V ⊆ HS g q) :
    S ∩ HS g q = S :=
  Set.inter_eq_left.2 (hS.trans (convexHull_min hV (convex_HS g q)))

example : convexHull ℝ ({-1, 1} : Set ℝ) ∩ HS (0 : ℝ) 3 = convexHull ℝ ({-1, 1} : Set ℝ) := by
  apply drop_unclipped subset_rfl
  intro x hx
  rw [mem_HS_iff, Real.dist_eq, Real.dist_eq]
  rcases hx with rfl | rfl <;> norm_num

/-- T16.2: a neighbour with a face is within twice the distance to any point of that face -/
theorem neighbour_within {g q x : E} (hx : dist x g = dist x q) : dist g q ≤ 2 * dist g x := by
  linarith [dist_triangle g x q, dist_comm x g]

example : dist (0 : ℝ) 2 ≤ 2 * dist (0 : ℝ) 1 :=
  neighbour_within (by simp [Real.dist_eq]; norm_num)

def Vor {ι : Type*} (G : ι → E) (i : ι) : Set E := {x | ∀ j, dist x (G i) ≤ dist x (G j)}

/-- T02.1 covering: every point has a nearest generator -/
theorem cover {ι : Type*} [Finite ι] [Nonempty ι] (G : ι → E) (x : E) : ∃ i, x ∈ Vor G i :=
  Finite.exists_min (fun i => dist x (G i))

theorem cover_univ {ι : Type*} [Finite ι] [Nonempty ι] (G : ι → E) :
    (⋃ i, Vor G i) = Set.univ := by
  apply Set.eq_univ_of_forall
  intro x
  exact Set.mem_iUnion.2 (cover G x)

example : ∃ i : Fin 2, (5 : ℝ) ∈ Vor (fun k : Fin 2 => (k : ℝ)) i := cover _ _

/-- T02.1: two regions meet inside the bisector of their generators, a proper hyperplane (`bisector_eq_hyperplane`,
`bisector_proper`) -/
theorem overlap_on_bisector {ι : Type*} (G : ι → E) (i j : ι) :
    Vor G i ∩ Vor G j ⊆ {x | dist x (G i) = dist x (G j)} := by
  rintro x ⟨hi, hj⟩
  exact le_antisymm (hi j) (hj i)

theorem bisector_eq_hyperplane (a b : E) :
    {x | dist x a = dist x b} = {x | inner ℝ (a - b) (x - (1/2:ℝ) • (a + b)) = 0} := by
  ext x
  rw [Set.mem_ofPred_eq, Set.mem_ofPred_eq, ← pow_left_inj₀ dist_nonneg dist_nonneg two_ne_zero, eq_comm,
    ← sub_eq_zero, ← two_mul_inner_eq, mul_eq_zero_iff_left two_ne_zero]

theorem bisector_proper {a b : E} (h : a ≠ b) : a ∉ {x : E | dist x a = dist x b} := by
  intro ha
  have ha' : dist a a = dist a b := ha
  rw [dist_self] at ha'
  exact h (dist_eq_zero.1 ha'.symm)

def face {ι : Type*} (G : ι → E) (i j : ι) : Set E :=
  Vor G i ∩ {x | dist x (G i) = dist x (G j)}

theorem face_eq_inter {ι : Type*} (G : ι → E) (i j : ι) : face G i j = Vor G i ∩ Vor G j :=
  Set.Subset.antisymm (fun _ hx => ⟨hx.1, fun k => hx.2 ▸ hx.1 k⟩)
    fun _ hx => ⟨hx.1, overlap_on_bisector G i j hx⟩

/-- T03.1 reciprocity -/
theorem face_symm {ι : Type*} (G : ι → E) (i j : ι) : face G i j = face G j i := by
  rw [face_eq_inter, face_eq_inter, Set.inter_comm]

/-- T03.1: the normals that the two sides of a face use are opposite -/
theorem normals_opposite (a b : E) : (b - a) = -(a - b) := (neg_sub a b).symm

/-- the plane the code uses: normal `G i - G j`, through the midpoint -/
theorem face_subset_plane {ι : Type*} (G : ι → E) (i j : ι) :
    face G i j ⊆ {x | inner ℝ (G i - G j) (x - (1/2:ℝ) • (G i + G j)) = 0} := by
  rw [← bisector_eq_hyperplane]
  exact Set.inter_subset_right

/-- T06.3 translation covariance -/
theorem Vor_translate {ι : Type*} (G : ι → E) (t : E) (i : ι) :
    Vor (fun k => G k + t) i = (fun x => x + t) '' Vor G i := by
  ext x
  simp only [Set.image_add_right, Set.mem_preimage, Vor, Set.mem_ofPred_eq, ← dist_add_right (x + -t) _ t,
    neg_add_cancel_right]

theorem Vor_comp {ι κ : Type*} (G : κ → E) {e : ι → κ} (he : Function.Surjective e) (i : ι) :
    Vor (G ∘ e) i = Vor G (e i) :=
  Set.ext fun _ => ⟨fun h k => by obtain ⟨j, rfl⟩ := he k; exact h j, fun h j => h (e j)⟩

theorem face_translate {ι : Type*} (G : ι → E) (t : E) (i j : ι) :
    face (fun k => G k + t) i j = (fun x => x + t) '' face G i j := by
  rw [face_eq_inter, face_eq_inter, Vor_translate, Vor_translate]
  exact (Set.image_inter (add_left_injective t)).symm

/-- T08.3 prism: for `g`, `q` in a subspace `K`, membership in `HS g q` depends on the orthogonal projection onto `K` only -/
theorem HS_proj (K : Submodule ℝ E) [K.HasOrthogonalProjection] {g q : E} (hg : g ∈ K)
    (hq : q ∈ K) (x : E) :
    x ∈ HS g q ↔ ((K.orthogonalProjectionOnto x : K) : E) ∈ HS g q := by
  -- `x - m = (P x - m) + (x - P x)`, and `x - P x` is orthogonal to `g - q ∈ K`
  have h0 : inner ℝ (g - q) (x - K.starProjection x) = 0 :=
    (real_inner_comm _ _).trans (Submodule.starProjection_inner_eq_zero x (g - q) (K.sub_mem hg hq))
  show 0 ≤ inner ℝ (g - q) (x - (1/2 : ℝ) • (g + q))
    ↔ 0 ≤ inner ℝ (g - q) (K.starProjection x - (1/2 : ℝ) • (g + q))
  rw [← sub_add_sub_cancel' (K.starProjection x) ((1/2 : ℝ) • (g + q)) x, inner_add_right, h0, add_zero]

example (x : ℝ) : x ∈ HS (0 : ℝ) 1 ↔ (((⊤ : Submodule ℝ ℝ).orthogonalProjectionOnto x : _) : ℝ)
    ∈ HS (0 : ℝ) 1 :=
  HS_proj ⊤ Submodule.mem_top Submodule.mem_top x

end MVoro.VorSet

section Axioms
open MVoro.VorSet
#print axioms two_mul_inner_eq
#print axioms mem_HS_iff
#print axioms convex_HS
#print axioms gen_mem_HS
#print axioms gen_mem_HS_strict
#print axioms security_radius
#print axioms add_far_unchanged
#print axioms run_eq_inter_aux
#print axioms run_eq_inter
#print axioms run_eq_voronoi
#print axioms hull_subset_ball
#print axioms drop_unclipped
#print axioms neighbour_within
#print axioms cover
#print axioms cover_univ
#print axioms overlap_on_bisector
#print axioms bisector_eq_hyperplane
#print axioms bisector_proper
#print axioms face_symm
#print axioms face_eq_inter
#print axioms normals_opposite
#print axioms face_subset_plane
#print axioms Vor_translate
#print axioms face_translate
#print axioms HS_proj
end Axioms
