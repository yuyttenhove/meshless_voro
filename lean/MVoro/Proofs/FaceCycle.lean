/-
C15 (T15.2): **the vertices of every face form ONE simple cycle in which consecutive vertices share a second plane.**

In a closed triple surface `T` with three different planes per vertex, the vertices (triples) at a plane `p` are permuted by
"cross the edge that leaves `p`": `StepAt T p d d'` ⇔ `d` has the edge `(p, x)` and `d'` the edge `(x, p)`.  This successor is
a function, injective and total on the triples at `p`.  If the triples at `p` form one umbrella (`Euler.LinkConn`, proved for every
reachable cell in `EulerReach.euler_reach`), iterating it from any vertex of the face lists every vertex of the face exactly once and
returns to the start (`face_cycle`): this is the order `sort_face_vertices` produces, and the reason it never fails to find "a next vertex connected to the current one".
-/
import MVoro.Proofs.EulerReach
import MVoro.Proofs.FinOrbit

namespace MVoro.FaceCycle
open MVoro MVoro.CycleBoundary MVoro.Euler MVoro.EulerReach Function Relation

variable {T : List Dual} {p : Nat}

theorem step_fun (hT : (edgesOf T).Nodup) (hD : ∀ d ∈ T, Distinct3 d) {d d₁ d₂ : Dual} (hd : d ∈ T)
    (h₁ : StepAt T p d d₁) (h₂ : StepAt T p d d₂) : d₁ = d₂ := by
  obtain ⟨m₁, x, hx, hx'⟩ := h₁
  obtain ⟨m₂, y, hy, hy'⟩ := h₂
  obtain rfl := out_edge_unique (hD d hd) hx hy
  exact edge_unique hT m₁ m₂ hx' hy'

theorem step_inj (hT : (edgesOf T).Nodup) (hD : ∀ d ∈ T, Distinct3 d) {d₁ d₂ d' : Dual} (hd₁ : d₁ ∈ T) (hd₂ : d₂ ∈ T)
    (h₁ : StepAt T p d₁ d') (h₂ : StepAt T p d₂ d') : d₁ = d₂ := by
  obtain ⟨m, x, hx, hx'⟩ := h₁
  obtain ⟨_, y, hy, hy'⟩ := h₂
  obtain rfl := in_edge_unique (hD d' m) hx' hy'
  exact edge_unique hT hd₁ hd₂ hx hy

theorem step_exists (hT : Closed T) {d : Dual} (hd : d ∈ T) (hp : HasPlane d p) : ∃ d', StepAt T p d d' := by
  obtain ⟨x, hx⟩ := edge_out_of_plane hp
  obtain ⟨d', hd', he⟩ := mem_edgesOf.mp (hT.2 _ (mem_edgesOf.mpr ⟨d, hd, hx⟩))
  exact ⟨d', hd', x, hx, he⟩

open Classical in
/-- the successor around the face `p` as a total function on triples (identity away from the face) -/
noncomputable def nx (T : List Dual) (p : Nat) (d : Dual) : Dual :=
  if h : ∃ d', StepAt T p d d' then Classical.choose h else d

theorem nx_spec {d : Dual} (h : ∃ d', StepAt T p d d') : StepAt T p d (nx T p d) := by
  unfold nx
  rw [dif_pos h]
  exact Classical.choose_spec h

theorem nx_of_not {d : Dual} (h : ¬ ∃ d', StepAt T p d d') : nx T p d = d := by
  unfold nx
  rw [dif_neg h]

def AtFace (T : List Dual) (p : Nat) (d : Dual) : Prop := d ∈ T ∧ HasPlane d p

theorem nx_atFace (hT : Closed T) {d : Dual} (hd : AtFace T p d) : StepAt T p d (nx T p d) ∧ AtFace T p (nx T p d) := by
  have h := nx_spec (step_exists hT hd.1 hd.2)
  exact ⟨h, h.1, hasPlane_of_step h⟩

theorem iter_atFace (hT : Closed T) {d : Dual} (hd : AtFace T p d) (k : Nat) : AtFace T p ((nx T p)^[k] d) :=
  Set.MapsTo.iterate (s := {d | AtFace T p d}) (fun _ h => (nx_atFace hT h).2) k hd

theorem path_iter (hT : Closed T) (hD : ∀ d ∈ T, Distinct3 d) {d d' : Dual} (hd : AtFace T p d)
    (h : ReflTransGen (StepAt T p) d d') : ∃ k, (nx T p)^[k] d = d' := by
  induction h with
  | refl => exact ⟨0, rfl⟩
  | tail _ hstep ih =>
    obtain ⟨k, rfl⟩ := ih
    have ha := iter_atFace hT hd k
    refine ⟨k + 1, ?_⟩
    rw [iterate_succ_apply']
    exact step_fun hT.1 hD ha.1 (nx_atFace hT ha).1 hstep

/-- **T15.2: the vertices of a face form one simple cycle**; consecutive ones share the plane `p` and the plane of the crossed
edge -/
theorem face_cycle (hT : Closed T) (hN : T.Nodup) (hD : ∀ d ∈ T, Distinct3 d) (hL : LinkConn T p) {d₀ : Dual}
    (h₀ : AtFace T p d₀) :
    let m := (T.filter fun d => decide (HasPlane d p)).length
    let l := (List.range m).map fun k => (nx T p)^[k] d₀
    l.Nodup ∧ (∀ d, d ∈ l ↔ AtFace T p d) ∧ (∀ k, StepAt T p ((nx T p)^[k] d₀) ((nx T p)^[k + 1] d₀)) ∧ (nx T p)^[m] d₀ = d₀ := by
  intro m l
  have hS : ∀ d, d ∈ (T.filter fun d => decide (HasPlane d p)).toFinset ↔ AtFace T p d := by
    intro d
    simp [AtFace]
  obtain ⟨h1, h2, h3⟩ := FinOrbit.orbit_spec (f := nx T p) (a := d₀)
    (fun d hd => (hS _).2 (nx_atFace hT ((hS d).1 hd)).2)
    (fun a ha b hb (hab : nx T p a = nx T p b) =>
      step_inj hT.1 hD ((hS a).1 ha).1 ((hS b).1 hb).1 (nx_atFace hT ((hS a).1 ha)).1
        (hab ▸ (nx_atFace hT ((hS b).1 hb)).1))
    ((hS _).2 h₀)
    (fun y hy => path_iter hT hD h₀ (hL d₀ h₀.1 y ((hS y).1 hy).1 h₀.2 ((hS y).1 hy).2))
  rw [List.toFinset_card_of_nodup (hN.filter _)] at h1 h2 h3
  refine ⟨h1, fun d => (h2 d).trans (hS d), fun k => ?_, h3⟩
  rw [iterate_succ_apply']
  exact (nx_atFace hT (iter_atFace hT h₀ k)).1

/-- T15.2 for every cell reachable from the start box by successful clips -/
theorem reachable_face_cycle {T : List Dual} (h : ReflTransGen CStep box8 T) (p : Nat) {d₀ : Dual} (h₀ : AtFace T p d₀) :
    let m := (T.filter fun d => decide (HasPlane d p)).length
    let l := (List.range m).map fun k => (nx T p)^[k] d₀
    l.Nodup ∧ (∀ d, d ∈ l ↔ AtFace T p d) ∧ (∀ k, StepAt T p ((nx T p)^[k] d₀) ((nx T p)^[k + 1] d₀)) ∧ (nx T p)^[m] d₀ = d₀ := by
  obtain ⟨hC, hN, hD, hL, _⟩ := euler_reach h
  exact face_cycle hC hN hD (hL p) h₀

#print axioms MVoro.FaceCycle.face_cycle
end MVoro.FaceCycle
