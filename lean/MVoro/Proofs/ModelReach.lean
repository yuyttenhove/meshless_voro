/-
The executable model of `clip_by_plane` preserves the combinatorial invariants.

`EulerReach.cstep_good` is about the abstract clip `clipDuals T R p`; `ClipModel.clip_spec` says that the executable
`Model/Clip.clip` (the hand-written function compared with the Rust code exactly; its `compute_boundary` part is proved equal
to the translation `Gen.computeBoundary` regenerated from the source, `Obl/Boundary`) returns that list up to order.  This file
joins the two: `SGood` does not depend on the order of the triples, and the cycle a successful clip leaves is the result of a
greedy run over the removed triples (`ClipModel.clip_run`).
-/
import MVoro.Proofs.ClipModel
import MVoro.Proofs.EulerReach

namespace MVoro.ModelReach
open MVoro MVoro.CycleBoundary MVoro.CycleWalk MVoro.ClipModel MVoro.Euler MVoro.EulerClip MVoro.EulerReach Relation

theorem sgood_perm {T T' : List Dual} (h : T.Perm T') (hg : SGood T) : SGood T' := by
  obtain ⟨hC, hN, hD, hL, hE⟩ := hg
  have he := edgesOf_perm h
  refine ⟨⟨he.nodup_iff.1 hC.1, fun e hm => he.mem_iff.1 (hC.2 e (he.mem_iff.2 hm))⟩, h.nodup_iff.1 hN,
    fun d hd => hD d (h.mem_iff.2 hd), fun j => (hL j).congr fun _ => h.mem_iff, ?_⟩
  rw [← h.length_eq, ← (planesOf_mono h.subset).antisymm (planesOf_mono h.symm.subset)]
  exact hE

variable {V : Type}

/-- C18 (with C15) for the executable model: if the dual triples of the vertex array satisfy `SGood` and the model of
`clip_by_plane` returns `.clipped`, the dual triples of the new vertex array satisfy `SGood` again: closed surface, no repeated
vertex, three planes per vertex, one umbrella per plane, `V − E + F = 2`. -/
theorem model_clip_good {dual : V → Dual} {mk : Nat → Nat → Nat → V} {removed : V → Bool} {p : Nat} {cyc cyc' : Cycle}
    {vs out : Array V}
    (hmk : ∀ x y z, dual (mk x y z) = ⟨x, y, z⟩)
    (hnd : (Cycle.walk cyc.grow.len cyc.grow cyc.grow.start).Nodup)
    (hcov : ∀ x, cyc.grow.get x ≠ x → x ∈ Cycle.walk cyc.grow.len cyc.grow cyc.grow.start)
    (hRange : ∀ v ∈ vs.toList, InRange cyc.grow.ptrs.size (dual v))
    (hg : SGood (vs.toList.map dual))
    (hNC : ∀ R : List Dual, R.Perm ((vs.toList.filter fun v => removed v).map dual) → NoClosedPart R)
    (hp : ∀ d ∈ vs.toList.map dual, ¬ HasPlane d p)
    (h : Clip.clip dual mk removed p cyc vs = .clipped cyc' out) :
    SGood (out.toList.map dual) := by
  obtain ⟨⟨R', hR'perm, hG⟩, hspec⟩ := clip_run hmk hnd hcov
    (fun v hv => ⟨hRange v hv, hg.2.2.1 (dual v) (List.mem_map_of_mem hv)⟩) hg.1.1 (hNC _ (.refl _)) h
  have hstep : CStep (vs.toList.map dual) (clipDuals (vs.toList.map dual) R' p) :=
    ⟨R', cyc'.get, p, fun d hd => map_subset_of_filter (hR'perm.mem_iff.1 hd),
      hR'perm.nodup_iff.2 (hg.2.1.sublist (List.filter_sublist.map dual)), hG, hp, rfl⟩
  exact sgood_perm (hspec.trans (clipDuals_perm p hR'perm.symm)).symm (cstep_good hg hstep)

#print axioms MVoro.ModelReach.model_clip_good
end MVoro.ModelReach
