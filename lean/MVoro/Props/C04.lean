/-
C04 — face normals point away from the left generator; cells are closed surfaces.
Property theorems.  Proofs of the surface identities in `MVoro/Proofs/Surface.lean`.
The orientation convention of the *code* is tied in by `MVoro/Obl/Face.lean` (translator output).
-/
import MVoro.Proofs.Surface
import MVoro.Proofs.VorSet

namespace MVoro.C04
open MVoro MVoro.Surface

/-- **T04.1** model of the orientation: with `sgn = storedNormalSign * clipNormalSign` the stored normal is
`sgn • (g - q)/|g - q|`; it points away from the left generator `g` towards the neighbour position `q`
iff `sgn = -1`:  `⟨sgn • (g - q), q - g⟩ > 0 ↔ sgn = -1` for `sgn = ±1`, `q ≠ g`. -/
theorem normal_outward_iff (sgn : ℝ) (hs : sgn = 1 ∨ sgn = -1) (g q : V3 ℝ) (h : 0 < V3.dot (q - g) (q - g)) :
    0 < V3.dot (V3.smul sgn (g - q)) (q - g) ↔ sgn = -1 := by
  have key : V3.dot (V3.smul sgn (g - q)) (q - g) = -sgn * V3.dot (q - g) (q - g) := by
    simp only [dot_def, smul_x, smul_y, smul_z, sub_x, sub_y, sub_z]; ring
  -- `-sgn` times a positive number: negative for `sgn = 1`, positive for `sgn = -1`
  rw [key]
  rcases hs with rfl | rfl <;> norm_num [h, h.le.not_gt]

/-- **T04.2** closure: the vector areas of a closed oriented triangulated surface sum to zero -/
theorem closure {T : List Tri} (h : ClosedSurf T) : (T.map vecArea).foldr (· + ·) zero3 = zero3 :=
  Surface.closure h

/-- **T04.2** the signed tetrahedron sum of a closed surface does not depend on the apex (generator) -/
theorem volume_apex_independent {T : List Tri} (h : ClosedSurf T) (g g' : V3 ℝ) :
    (T.map (tetVol g)).sum = (T.map (tetVol g')).sum := Surface.volume_apex_indep h g g'

/-- **T04.2** divergence theorem for the decomposition: `(1/3) Σ A_t · (c_t - g) = - Σ tetVol g t`
(with `tetVol g t = det[b-a, c-a, g-a]/6`, which is positive when the triangle normal points towards `g`;
for the outward vector areas `-A_t` the right hand side is the positive volume) -/
theorem divergence (T : List Tri) (g : V3 ℝ) :
    (1/3) * (T.map (fun t => V3.dot (vecArea t) (triCentroid t - g))).sum = - (T.map (tetVol g)).sum :=
  Surface.divergence T g

/-- **T04.2** a surface given combinatorially by paired directed edges (the invariant of C18) is closed -/
theorem closed_of_paired_edges (pos : Nat → V3 ℝ) (L : List (Nat × Nat × Nat))
    (hnd : (L.flatMap edges).Nodup) (hsw : ∀ e ∈ L.flatMap edges, e.swap ∈ L.flatMap edges) :
    ClosedSurf (L.map (toTri pos)) := closedSurf_of_paired pos L hnd hsw

/-- **T04.3** every point of the face between `i` and `j` lies on the bisector plane (normal `g_i - g_j`, through the midpoint) -/
theorem face_on_bisector_plane {E : Type*} [NormedAddCommGroup E] [InnerProductSpace ℝ E] {ι : Type*} (G : ι → E) (i j : ι) :
    VorSet.face G i j ⊆ {x | inner ℝ (G i - G j) (x - (1/2 : ℝ) • (G i + G j)) = 0} :=
  VorSet.face_subset_plane G i j

/-- non-vacuity: the four outward faces of the unit tetrahedron form a closed surface -/
example : ClosedSurf unitTet := by
  unfold unitTet; exact tetFaces_closed _

end MVoro.C04
