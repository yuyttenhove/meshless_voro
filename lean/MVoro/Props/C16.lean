/-
C16 — the safety radius bounds the cell and its region of influence.
Property theorems (proofs in `MVoro/Proofs/VorSet.lean`).
-/
import MVoro.Proofs.VorSet

namespace MVoro.C16
open MVoro.VorSet

variable {E : Type*} [NormedAddCommGroup E] [InnerProductSpace ℝ E]

/-- **T16.1** a ball around the generator that contains the vertices contains their convex hull: with `R` the largest vertex
distance the whole cell is within `R`, so `safety_radius = 2 * max vertex distance ≥ 2 * distance to any point` (that the
farthest point is itself a vertex is not stated) -/
theorem farthest_point_is_vertex {V : Set E} {g : E} {R : ℝ} (hV : V ⊆ Metric.closedBall g R) :
    convexHull ℝ V ⊆ Metric.closedBall g R := hull_subset_ball hV

/-- **T16.2** a neighbour that shares a face point `x` with the cell is within `2 * dist g x`, hence within the safety radius -/
theorem neighbour_within_safety_radius {g q x : E} (hx : dist x g = dist x q) : dist g q ≤ 2 * dist g x :=
  neighbour_within hx

/-- **T16.3** a generator farther than `2R` cannot cut a cell contained in the ball of radius `R` -/
theorem far_generator_irrelevant {S : Set E} {g q : E} {R : ℝ}
    (hS : S ⊆ Metric.closedBall g R) (hq : 2 * R < dist g q) : S ∩ HS g q = S := security_radius hS hq

/-- **T16.3** adding any set of generators all farther than the safety radius leaves the cell unchanged -/
theorem add_far_generators {S : Set E} {g : E} {R : ℝ} (far : List E) (hS : S ⊆ Metric.closedBall g R)
    (hfar : ∀ q ∈ far, 2 * R < dist g q) : S ∩ ⋂ q ∈ far, HS g q = S := add_far_unchanged far hS hfar

/-- **T16.4** (with T08.3) in 1D/2D the half spaces only see the projection onto the active subspace, so the
radius measured in that subspace is a valid bound -/
theorem subspace_radius (K : Submodule ℝ E) [K.HasOrthogonalProjection] {g q : E} (hg : g ∈ K) (hq : q ∈ K) (x : E) :
    x ∈ HS g q ↔ ((K.orthogonalProjectionOnto x : K) : E) ∈ HS g q := HS_proj K hg hq x

/-- non-vacuity of T16.3 on the real line -/
example : (Set.Icc (-1 : ℝ) 1) ∩ HS (0 : ℝ) 3 = Set.Icc (-1) 1 := by
  apply far_generator_irrelevant (R := 1)
  · intro x hx
    simpa [Real.dist_eq, abs_le] using hx
  · simp [Real.dist_eq]; norm_num

end MVoro.C16
