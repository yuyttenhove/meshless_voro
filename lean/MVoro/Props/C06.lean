/-
C06 — periodic tessellation equals that of the infinitely replicated point set

Property theorems.  Proofs live in the imported `MVoro.Proofs.*` modules; every theorem below is the
proved statement itself (`type_of%`), its source text is repeated in the doc comment (without the `variable`s and local
notations of the section it stands in).  GENERATED by tools/mkprops.py from tools/props_table.py; edit that.
-/
import MVoro.Proofs.Periodic
import MVoro.Proofs.VorSet

namespace MVoro.C06

/-- T06.1 one axis: an image with |k| >= 2 is never closer than the best of k in {-1,0,1}

Statement (`MVoro.Periodic.closer_image_1d`): `(a w x q : ℝ) (k : ℤ) (hw : 0 < w) (hq1 : a ≤ q) (hq2 : q ≤ a + w) (hx1 : a - w / 2 ≤ x) (hx2 : x ≤ a + 3 * w / 2) (hk : 2 ≤ |k|) : ∃ k' : ℤ, (k' = -1 ∨ k' = 0 ∨ k' = 1) ∧ |x - (q + k' * w)| ≤ |x - (q + k * w)|` -/
theorem closer_image_1d : type_of% @MVoro.Periodic.closer_image_1d := @MVoro.Periodic.closer_image_1d

/-- T06.1 all axes

Statement (`MVoro.Periodic.clamp_image`): `{d : ℕ} (a w q x : Fin d → ℝ) (h : ∀ i, 0 < w i ∧ a i ≤ q i ∧ q i ≤ a i + w i ∧ a i - w i / 2 ≤ x i ∧ x i ≤ a i + 3 * w i / 2) (k : Fin d → ℤ) : ∃ k' : Fin d → ℤ, (∀ i, k' i = -1 ∨ k' i = 0 ∨ k' i = 1) ∧ (∀ i, |k i| ≤ 1 → k' i = k i) ∧ dist2 x (image q w k') ≤ dist2 x (image q w k)` -/
theorem clamp_image : type_of% @MVoro.Periodic.clamp_image := @MVoro.Periodic.clamp_image

/-- T06.1 the cell lies within half a period of its generator

Statement (`MVoro.Periodic.own_images_bound`): `{d : ℕ} (x g w : Fin d → ℝ) (hw : ∀ i, 0 < w i) (h : ∀ i, dist2 x g ≤ dist2 x (image g w (Pi.single i 1)) ∧ dist2 x g ≤ dist2 x (image g w (Pi.single i (-1)))) : ∀ i, |x i - g i| ≤ w i / 2` -/
theorem own_images_bound : type_of% @MVoro.Periodic.own_images_bound := @MVoro.Periodic.own_images_bound

/-- T06.1 hence strictly inside the tripled box: no boundary faces along periodic axes

Statement (`MVoro.Periodic.cell_in_tripled_box`): `{d : ℕ} (a w g x : Fin d → ℝ) (hw : ∀ i, 0 < w i) (hg : ∀ i, a i ≤ g i ∧ g i ≤ a i + w i) (hx : ∀ i, |x i - g i| ≤ w i / 2) : ∀ i, a i - w i < x i ∧ x i < a i + 2 * w i` -/
theorem cell_strictly_inside_tripled_box : type_of% @MVoro.Periodic.cell_in_tripled_box := @MVoro.Periodic.cell_in_tripled_box

/-- T06.1 the 3^d images decide membership in the periodic cell

Statement (`MVoro.Periodic.images27_suffice'`): `{d : ℕ} {ι : Type*} (a w g x : Fin d → ℝ) (Q : ι → Fin d → ℝ) (hw : ∀ i, 0 < w i) (j₀ : ι) (hj₀ : Q j₀ = g) (hQ : ∀ j i, a i ≤ Q j i ∧ Q j i ≤ a i + w i) (H : ∀ j (k : Fin d → ℤ), (∀ i, k i = -1 ∨ k i = 0 ∨ k i = 1) → ¬ (Q j = g ∧ k = 0) → dist2 x g ≤ dist2 x (image (Q j) w k)) : (∀ j (k : Fin d → ℤ), dist2 x g ≤ dist2 x (image (Q j) w k)) ∧ (∀ i, |x i - g i| ≤ w i / 2) ∧ (∀ i, a i - w i < x i ∧ x i < a i + 2 * w i)` -/
theorem images27_suffice : type_of% @MVoro.Periodic.images27_suffice' := @MVoro.Periodic.images27_suffice'

/-- T06.4 searching with the query shifted by s looks at the image shifted by -s

Statement (`MVoro.Periodic.shift_equiv_image`): `{d : ℕ} (x w q : Fin d → ℝ) (k : Fin d → ℤ) : dist2 (fun i => x i + k i * w i) q = dist2 x (image q w (fun i => -k i))` -/
theorem query_shift_is_image : type_of% @MVoro.Periodic.shift_equiv_image := @MVoro.Periodic.shift_equiv_image

/-- T06.4 the reported shift is absent iff zero and has components in {-w,0,w}

Statement (`MVoro.Periodic.reportedShift_spec`): `(w : Fin 3 → ℝ) (k : Fin 3 → ℤ) (hw : ∀ i, 0 < w i) (hk : ∀ i, k i = -1 ∨ k i = 0 ∨ k i = 1) : (reportedShift (fun i => k i * w i) = none ↔ k = 0) ∧ (k ≠ 0 → reportedShift (fun i => k i * w i) = some (fun i => -(k i * w i))) ∧ (∀ i, -(k i * w i) = -w i ∨ -((k i : ℝ) * w i) = 0 ∨ -(k i * w i) = w i)` -/
theorem reported_shift : type_of% @MVoro.Periodic.reportedShift_spec := @MVoro.Periodic.reportedShift_spec

/-- T06.3 wrapping a translated generator back into the box leaves the set of its periodic images unchanged

Statement (`MVoro.Periodic.images_of_wrapped`): `{d : ℕ} (q w : Fin d → ℝ) (n : Fin d → ℤ) : Set.range (image (image q w n) w) = Set.range (image q w)` -/
theorem wrapped_generator_same_images : type_of% @MVoro.Periodic.images_of_wrapped := @MVoro.Periodic.images_of_wrapped

/-- T06.3 translating a generator translates all its images

Statement (`MVoro.Periodic.image_translate`): `{d : ℕ} (q t w : Fin d → ℝ) (k : Fin d → ℤ) : image (fun i => q i + t i) w k = fun i => image q w k i + t i` -/
theorem image_of_translate : type_of% @MVoro.Periodic.image_translate := @MVoro.Periodic.image_translate

/-- T06.3 translating all sites translates every Voronoi region (any index set, e.g. all periodic images): measures are unchanged

Statement (`MVoro.VorSet.Vor_translate`): `{ι : Type*} (G : ι → E) (t : E) (i : ι) : Vor (fun k => G k + t) i = (fun x => x + t) '' Vor G i` -/
theorem cell_translates : type_of% @MVoro.VorSet.Vor_translate := @MVoro.VorSet.Vor_translate

/-- T06.3 and every face

Statement (`MVoro.VorSet.face_translate`): `{ι : Type*} (G : ι → E) (t : E) (i j : ι) : face (fun k => G k + t) i j = (fun x => x + t) '' face G i j` -/
theorem face_translates : type_of% @MVoro.VorSet.face_translate := @MVoro.VorSet.face_translate

end MVoro.C06
