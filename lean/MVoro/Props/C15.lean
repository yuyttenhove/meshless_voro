/-
C15 — extracted vertices and face polygons form a valid convex polytope

Property theorems.  Proofs live in the imported `MVoro.Proofs.*` modules; every theorem below is the
proved statement itself (`type_of%`), its source text is repeated in the doc comment (without the `variable`s and local
notations of the section it stands in).  GENERATED by tools/mkprops.py from tools/props_table.py; edit that.
-/
import MVoro.Proofs.FacesProofs
import MVoro.Proofs.Misc
import MVoro.Proofs.GeomHelpers
import MVoro.Proofs.Euler
import MVoro.Proofs.EulerClip
import MVoro.Proofs.LinkClip
import MVoro.Proofs.EulerReach
import MVoro.Proofs.ReachAll
import MVoro.Proofs.FaceCycle
import MVoro.Proofs.SortCycle
import MVoro.Proofs.EulerLists

namespace MVoro.C15

/-- T15.1 `Vertex::from_dual` = intersect_planes of the three listed planes lies on all three (exact arithmetic, det != 0)

Statement (`MVoro.GeomHelpers.intersectPlanes_on`): `(p0 p1 p2 : Plane ℝ) (hdet : det3cols p0.n p1.n p2.n ≠ 0) : V3.dot p0.n (Ref.intersectPlanes p0 p1 p2 - p0.p) = 0 ∧ V3.dot p1.n (Ref.intersectPlanes p0 p1 p2 - p1.p) = 0 ∧ V3.dot p2.n (Ref.intersectPlanes p0 p1 p2 - p2.p) = 0` -/
theorem vertex_on_its_three_planes : type_of% @MVoro.GeomHelpers.intersectPlanes_on := @MVoro.GeomHelpers.intersectPlanes_on

/-- T15.2a whenever `sort_face_vertices` succeeds its result is a permutation of the vertices collected for the plane: no vertex is lost or duplicated by the ordering

Statement (`MVoro.FacesProofs.sortFaceVertices_perm`): `(duals : Array Dual) (p : Nat) (vs res : Array Nat) (h : sortFaceVertices duals p vs = some res) : res.Perm vs` -/
theorem ordering_is_a_permutation : type_of% @MVoro.FacesProofs.sortFaceVertices_perm := @MVoro.FacesProofs.sortFaceVertices_perm

/-- T15.2b vertex i is collected under plane p exactly as often as p occurs in its dual triple

Statement (`MVoro.FacesProofs.count_collected`): `(duals : Array Dual) (p i : Nat) (hi : i < duals.size) : (collected duals p).count i = occ (duals.getD i default) p` -/
theorem vertex_listed_per_occurrence : type_of% @MVoro.FacesProofs.count_collected := @MVoro.FacesProofs.count_collected

/-- T15.2b for three distinct planes: once under each of them, never under another plane

Statement (`MVoro.FacesProofs.occ_distinct`): `(d : Dual) (hab : d.a ≠ d.b) (hbc : d.b ≠ d.c) (hac : d.a ≠ d.c) (p : Nat) : occ d p = if p = d.a ∨ p = d.b ∨ p = d.c then 1 else 0` -/
theorem distinct_planes_once_each : type_of% @MVoro.FacesProofs.occ_distinct := @MVoro.FacesProofs.occ_distinct

/-- T15.2c summed over all planes every vertex is listed exactly three times

Statement (`MVoro.FacesProofs.total_occ_three`): `(d : Dual) (nplanes : Nat) (ha : d.a < nplanes) (hb : d.b < nplanes) (hc : d.c < nplanes) : ((List.range nplanes).map (occ d)).sum = 3` -/
theorem every_vertex_in_three_faces : type_of% @MVoro.FacesProofs.total_occ_three := @MVoro.FacesProofs.total_occ_three

/-- T15.4 in every state reachable from `new` by with_faces / discard_faces / accessor operations the unchecked reads of the face data never hit None

Statement (`MVoro.TypeStateProofs.run_never_ub`): `(derive : P → F) (dim : Nat) (p : P) (ops : List (Op P F)) : run derive (new dim p) ops ≠ .ub` -/
theorem face_data_always_present : type_of% @MVoro.TypeStateProofs.run_never_ub := @MVoro.TypeStateProofs.run_never_ub

/-- T15.4 one operation keeps the invariant "marker = WithFaces iff face data present"

Statement (`MVoro.TypeStateProofs.step_good`): `(derive : P → F) (c c' : Cell P F) (op : Op P F) (hg : Good c) (hs : step derive c op = .ok c') : Good c'` -/
theorem invariant_step : type_of% @MVoro.TypeStateProofs.step_good := @MVoro.TypeStateProofs.step_good

/-- T15.4 with_faces on a 1D/2D cell is the error state (panic), never a cell with nonsense faces

Statement (`MVoro.TypeStateProofs.withFaces_rejected_lowdim`): `(derive : P → F) (dim : Nat) (p : P) (hd : dim ≠ 3) : step derive (new dim p) .withFaces = .rejected` -/
theorem with_faces_rejected_low_dim : type_of% @MVoro.TypeStateProofs.withFaces_rejected_lowdim := @MVoro.TypeStateProofs.withFaces_rejected_lowdim

/-- T15.4 discard_faces followed by with_faces reproduces planes, vertices and (re-derived) faces

Statement (`MVoro.TypeStateProofs.discard_withFaces_id`): `(derive : P → F) (c : Cell P F) (hm : c.marker = .withoutFaces) (hf : c.faces = none) (hd : c.dim = 3) : ∃ c1 : Cell P F, c1 = { c with marker := .withFaces, faces` -/
theorem discard_then_with_faces_identity : type_of% @MVoro.TypeStateProofs.discard_withFaces_id := @MVoro.TypeStateProofs.discard_withFaces_id

/-- T15.3 a plane of the removed region that is not on its boundary cycle has ALL its triples in the removed region, if the triples at that plane form a single umbrella (link connected): the face vanishes from the cell

Statement (`MVoro.Euler.interior_gone`): `{T R : List Dual} {succ : Nat → Nat} (hT : (edgesOf T).Nodup) (hR : R ⊆ T) (hI : CInv succ R) {j : Nat} (hj : succ j = j) (hlink : LinkConn T j) {r0 : Dual} (hr0 : r0 ∈ R) (hr0j : HasPlane r0 j) : ∀ d ∈ T, HasPlane d j → d ∈ R` -/
theorem interior_planes_vanish : type_of% @MVoro.Euler.interior_gone := @MVoro.Euler.interior_gone

/-- T15.3 a face of the cell is still a face after the clip iff it is not interior to the removed region

Statement (`MVoro.Euler.plane_survives_iff`): `{T R : List Dual} {succ : Nat → Nat} {p : Nat} (hT : (edgesOf T).Nodup) (hR : R ⊆ T) (hI : Inv succ R) (hlink : ∀ j, LinkConn T j) (hp : ∀ d ∈ T, ¬ HasPlane d p) {j : Nat} (hjT : ∃ d ∈ T, HasPlane d j) : (∃ d ∈ clipDuals T R p, HasPlane d j) ↔ ¬ ((∃ r ∈ R, HasPlane r j) ∧ succ j = j)` -/
theorem plane_survives_iff_not_interior : type_of% @MVoro.Euler.plane_survives_iff := @MVoro.Euler.plane_survives_iff

/-- T15.3 the new plane is a face of the clipped cell

Statement (`MVoro.Euler.new_plane_present`): `{T R : List Dual} {p : Nat} {e : Nat × Nat} (he : e ∈ bdry R) : ∃ d ∈ clipDuals T R p, HasPlane d p` -/
theorem new_plane_is_a_face : type_of% @MVoro.Euler.new_plane_present := @MVoro.Euler.new_plane_present

/-- T15.3 bookkeeping: V vertices, F faces, k removed vertices, b new vertices, m vanished faces with the disc relation 2m + b = k + 2 keep V + 4 = 2F, i.e. V - E + F = 2 with E = 3V/2

Statement (`MVoro.Euler.euler_arith`): `(V F k b m : Nat) (hk : k ≤ V) (hm : m ≤ F) (hdisc : 2 * m + b = k + 2) (hE : V + 4 = 2 * F) : (V - k + b) + 4 = 2 * (F - m + 1)` -/
theorem euler_bookkeeping : type_of% @MVoro.Euler.euler_arith := @MVoro.Euler.euler_arith

/-- T15.3 every removed region on which the greedy boundary reconstruction succeeds satisfies the Euler relation of a disc, 2m + b = k + 2 (induction over the greedy run: an inserted triangle adds a boundary vertex - a NEW plane, by interior_gone - a closed corner turns a boundary vertex into an interior one)

Statement (`MVoro.EulerClip.disc_relation`): `{T : List Dual} (hT : (edgesOf T).Nodup) (hlink : ∀ j, LinkConn T j) (hdist : ∀ d ∈ T, d.a ≠ d.b ∧ d.b ≠ d.c ∧ d.c ≠ d.a) : ∀ {R : List Dual} {succ : Nat → Nat}, Greedy R succ → R ⊆ T → R.Nodup → DiscRel R succ` -/
theorem removed_region_is_a_disc : type_of% @MVoro.EulerClip.disc_relation := @MVoro.EulerClip.disc_relation

/-- T15.3 V + 4 = 2F (V - E + F = 2) for the cell implies it for the clipped cell, for link-connected closed surfaces

Statement (`MVoro.EulerClip.euler_preserved`): `{T R : List Dual} {succ : Nat → Nat} {p : Nat} (hT : Closed T) (hTn : T.Nodup) (hlink : ∀ j, LinkConn T j) (hdist : ∀ d ∈ T, d.a ≠ d.b ∧ d.b ≠ d.c ∧ d.c ≠ d.a) (hR : R ⊆ T) (hRn : R.Nodup) (hG : Greedy R succ) (hp : ∀ d ∈ T, ¬ HasPlane d p) (hE : T.length + 4 = 2 * (planesOf T).card) : (clipDuals T R p).length + 4 = 2 * (planesOf (clipDuals T R p)).card` -/
theorem euler_preserved_by_clip : type_of% @MVoro.EulerClip.euler_preserved := @MVoro.EulerClip.euler_preserved

/-- T15.2/T15.3 link-connectedness (the vertices of every face form ONE umbrella / cycle - no pinched face) is preserved by a clip whose boundary is a single injective cycle

Statement (`MVoro.LinkClip.linkConn_preserved`): `(hT : Closed T) (hR : R ⊆ T) (hI : Inv succ R) (hC : Conn succ) (hlink : ∀ j, LinkConn T j) (hp : ∀ d ∈ T, ¬ HasPlane d p) : ∀ j, LinkConn (clipDuals T R p) j` -/
theorem no_pinched_plane_after_clip : type_of% @MVoro.LinkClip.linkConn_preserved := @MVoro.LinkClip.linkConn_preserved

/-- T15.3 closed surface, no repeated vertex, three different planes per vertex, one umbrella per plane, Euler: all preserved by every successful clip

Statement (`MVoro.EulerReach.cstep_good`): `{T T' : List Dual} (h : SGood T) (hs : CStep T T') : SGood T'` -/
theorem clip_keeps_all_combinatorial_invariants : type_of% @MVoro.EulerReach.cstep_good := @MVoro.EulerReach.cstep_good

/-- T15.3 the eight dual triples of ConvexCell::init satisfy them (8 + 4 = 2 * 6)

Statement (`MVoro.EulerReach.box8_good`): `: SGood box8` -/
theorem start_box_good : type_of% @MVoro.EulerReach.box8_good := @MVoro.EulerReach.box8_good

/-- T15.3 at full strength for the combinatorial model: every surface reachable from the start box by successful clips satisfies V - E + F = 2 and has no pinched plane

Statement (`MVoro.EulerReach.euler_reach`): `{T : List Dual} (h : ReflTransGen CStep box8 T) : SGood T` -/
theorem euler_for_every_reachable_cell : type_of% @MVoro.EulerReach.euler_reach := @MVoro.EulerReach.euler_reach

/-- T15.2 in a closed surface with three planes per vertex whose triples at plane p form one umbrella, walking from any vertex of the face across the edge that leaves p lists every vertex of the face exactly once, consecutive ones share a second plane, and the walk returns to its start: the order sort_face_vertices produces

Statement (`MVoro.FaceCycle.face_cycle`): `(hT : Closed T) (hN : T.Nodup) (hD : ∀ d ∈ T, Distinct3 d) (hL : LinkConn T p) {d₀ : Dual} (h₀ : AtFace T p d₀) : let m := (T.filter fun d => decide (HasPlane d p)).length let l := (List.range m).map fun k => (nx T p)^[k] d₀ l.Nodup ∧ (∀ d, d ∈ l ↔ AtFace T p d) ∧ (∀ k, StepAt T p ((nx T p)^[k] d₀) ((nx T p)^[k + 1] d₀)) ∧ (nx T p)^[m] d₀ = d₀` -/
theorem face_is_one_simple_cycle : type_of% @MVoro.FaceCycle.face_cycle := @MVoro.FaceCycle.face_cycle

/-- T15.2 for every surface reachable from the start box by successful clips

Statement (`MVoro.FaceCycle.reachable_face_cycle`): `{T : List Dual} (h : ReflTransGen CStep box8 T) (p : Nat) {d₀ : Dual} (h₀ : AtFace T p d₀) : let m := (T.filter fun d => decide (HasPlane d p)).length let l := (List.range m).map fun k => (nx T p)^[k] d₀ l.Nodup ∧ (∀ d, d ∈ l ↔ AtFace T p d) ∧ (∀ k, StepAt T p ((nx T p)^[k] d₀) ((nx T p)^[k + 1] d₀)) ∧ (nx T p)^[m] d₀ = d₀` -/
theorem every_face_of_a_reachable_cell_is_one_cycle : type_of% @MVoro.FaceCycle.reachable_face_cycle := @MVoro.FaceCycle.reachable_face_cycle

/-- T15.2 the array algorithm of with_faces (model Faces.sortFaceVertices, compared token by token with the code): on a vertex list that is a bijection onto a cycle in which only c k and c (k+1) contain the plane after p of c k, none of its expect/assert! fires and the result is the cycle in order; core Lean only

Statement (`MVoro.SortCycle.sortFaceVertices_cycle`): `(F : FaceSpec p m c) (vs : Array Nat) (L : Lists (fun i => duals.getD i default) m c vs) (h0 : 0 < m → duals.getD (val vs 0) default = c 0) : ∃ res, sortFaceVertices duals p vs = some res ∧ res.size = m ∧ ∀ k, k < m → duals.getD (val res k) default = c k` -/
theorem sort_face_vertices_returns_the_cycle : type_of% @MVoro.SortCycle.sortFaceVertices_cycle := @MVoro.SortCycle.sortFaceVertices_cycle

/-- T15.2 the hypotheses of the previous theorem hold for every face of a closed surface with distinct edges, distinct planes per vertex and connected links, with c k = (nx T p)^[k] d0: the collected list (with_faces collection step) is ordered as the face cycle of FaceCycle

Statement (`MVoro.SortCycle.sort_of_surface`): `(duals : Array Dual) (p : Nat) (hC : Closed duals.toList) (hN : duals.toList.Nodup) (hD : ∀ d ∈ duals.toList, Distinct3 d) (hL : LinkConn duals.toList p) : let T := duals.toList let vs := (collected duals p).toArray let m := (T.filter fun d => decide (HasPlane d p)).length ∃ res, sortFaceVertices duals p vs = some res ∧ res.size = m ∧ ∀ k, k < m → duals.getD (val res k) default = (nx T p)^[k] (duals.getD (val vs 0) default)` -/
theorem sort_face_vertices_on_a_closed_surface : type_of% @MVoro.SortCycle.sort_of_surface := @MVoro.SortCycle.sort_of_surface

/-- T15.2 for every surface reachable from the start box by successful clips, every face

Statement (`MVoro.SortCycle.reachable_sort`): `(duals : Array Dual) (h : ReflTransGen CStep box8 duals.toList) (p : Nat) : let T := duals.toList let vs := (collected duals p).toArray let m := (T.filter fun d => decide (HasPlane d p)).length ∃ res, sortFaceVertices duals p vs = some res ∧ res.size = m ∧ ∀ k, k < m → duals.getD (val res k) default = (nx T p)^[k] (duals.getD (val vs 0) default)` -/
theorem sort_face_vertices_on_reachable_cells : type_of% @MVoro.SortCycle.reachable_sort := @MVoro.SortCycle.reachable_sort

/-- T15.2 in the ordered face every vertex is joined to the next and the last to the first by crossing the edge that leaves the face plane

Statement (`MVoro.SortCycle.sorted_closed_walk`): `(duals : Array Dual) (p : Nat) (hC : Closed duals.toList) (hN : duals.toList.Nodup) (hD : ∀ d ∈ duals.toList, Distinct3 d) (hL : LinkConn duals.toList p) : ∃ res, sortFaceVertices duals p (collected duals p).toArray = some res ∧ ∀ k, k < res.size → StepAt duals.toList p (duals.getD (val res k) default) (duals.getD (val res ((k + 1) % res.size)) default)` -/
theorem sorted_face_is_a_closed_walk : type_of% @MVoro.SortCycle.sorted_closed_walk := @MVoro.SortCycle.sorted_closed_walk

/-- T15.2 the whole with_faces model (collection, ordering of every face, removal of empty faces) returns a result, i.e. no expect/assert! of the ordering step fires for any face of a reachable cell

Statement (`MVoro.SortCycle.reachable_withFaces`): `(duals : Array Dual) (h : ReflTransGen CStep box8 duals.toList) (nplanes : Nat) : ∃ faces, withFaces duals nplanes = some faces` -/
theorem with_faces_succeeds_on_reachable_cells : type_of% @MVoro.SortCycle.reachable_withFaces := @MVoro.SortCycle.reachable_withFaces

/-- T15.1 for every cell reachable from the start box whose planes are below nplanes, with_faces returns face lists whose Euler characteristic V - E + F (E = half the sum of the list lengths, F = number of non-empty lists: the quantity the check computes from the implementation) is 2

Statement (`MVoro.EulerLists.reachable_euler_lists`): `(duals : Array Dual) (h : ReflTransGen CStep box8 duals.toList) (n : Nat) (hn : ∀ d ∈ duals.toList, d.a < n ∧ d.b < n ∧ d.c < n) : ∃ faces, withFaces duals n = some faces ∧ euler duals.size faces = 2` -/
theorem euler_relation_of_the_returned_face_lists : type_of% @MVoro.EulerLists.reachable_euler_lists := @MVoro.EulerLists.reachable_euler_lists

/-- T15.1 no face of a closed surface with connected links has exactly one vertex

Statement (`MVoro.EulerLists.M_ne_one`): `{T : List Dual} (hC : Closed T) (hN : T.Nodup) (hD : ∀ d ∈ T, Distinct3 d) (p : Nat) (hL : LinkConn T p) : M T p ≠ 1` -/
theorem no_face_with_one_vertex : type_of% @MVoro.EulerLists.M_ne_one := @MVoro.EulerLists.M_ne_one

/-- T15/T01.4/T10.5 combined: every cell reachable from the start cell by exact clips is geometrically good (vertices on their planes, positively oriented, inside all half spaces, closed surface) and combinatorially good (Euler, no pinched plane)

Statement (`MVoro.ReachAll.reachable_all`): `(lo hi g : I3 α) (h0 : lo.c0 < g.c0 ∧ g.c0 < hi.c0) (h1 : lo.c1 < g.c1 ∧ g.c1 < hi.c1) (h2 : lo.c2 < g.c2 ∧ g.c2 < hi.c2) (nbr : Nat → I3 α) (hn : ∀ i, i < 6 → nbr i = mirrorNbr lo hi g i) (s : St α) (h : ReflTransGen (Step g nbr) (initSt lo hi) s) : Good g nbr s ∧ SGood s.T` -/
theorem all_invariants_for_every_reachable_cell : type_of% @MVoro.ReachAll.reachable_all := @MVoro.ReachAll.reachable_all

end MVoro.C15
