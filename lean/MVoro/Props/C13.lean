/-
C13 — integrator and direct routes agree; built-in integrals reproduce stored values

Property theorems.  Proofs live in the imported `MVoro.Proofs.*` modules; every theorem below is the
proved statement itself (`type_of%`), its source text is repeated in the doc comment (without the `variable`s and local
notations of the section it stands in).  GENERATED by tools/mkprops.py from tools/props_table.py; edit that.
-/
import MVoro.Proofs.TessBook

namespace MVoro.C13

/-- T13.1 converting the integrator gives the same tessellation as the direct build, for every mask

Statement (`MVoro.TessBook.routes_equal`): `(u : Nat → Nat) (n : Nat) (cellOf : Nat → CellInfo) (mask : Option (List Bool)) : buildViaIntegrator u n cellOf mask = build u n cellOf mask` -/
theorem routes_equal : type_of% @MVoro.TessBook.routes_equal := @MVoro.TessBook.routes_equal

/-- T13.3 per cell: symmetric face integrals = non-symmetric ones minus the skipped faces

Statement (`MVoro.TessBook.sym_eq_filter`): `(active : List Bool) (c : CellInfo) : cellFacesSym active c = (cellFacesNonSym c).filter (fun f => !symSkip c.idx active f)` -/
theorem sym_is_filtered_nonsym_cell : type_of% @MVoro.TessBook.sym_eq_filter := @MVoro.TessBook.sym_eq_filter

/-- T13.3 whole integrator: the symmetric variant is the non-symmetric result minus exactly the faces already reported by a constructed lower-index neighbour without shift

Statement (`MVoro.TessBook.integrator_sym_eq_filter`): `(n : Nat) (cellOf : Nat → CellInfo) (active : List Bool) : integratorFacesSym n cellOf active = (integratorFacesNonSym n cellOf active).filter (fun f => !symSkip f.left active f)` -/
theorem sym_is_filtered_nonsym : type_of% @MVoro.TessBook.integrator_sym_eq_filter := @MVoro.TessBook.integrator_sym_eq_filter

/-- T13.3 the faces a cell stores are its symmetric face integrals (same order)

Statement (`MVoro.TessBook.stored_eq_sym`): `(active : List Bool) (c : CellInfo) (h : ∀ p ∈ c.planes, PlaneOK active c.idx p) : cellFaces (some active) c = cellFacesSym active c` -/
theorem stored_faces_eq_sym_cell : type_of% @MVoro.TessBook.stored_eq_sym := @MVoro.TessBook.stored_eq_sym

/-- T13.2/3 the stored face list equals the symmetric face integral list, in the same order

Statement (`MVoro.TessBook.build_faces_eq_sym`): `(u : Nat → Nat) (n : Nat) (cellOf : Nat → CellInfo) (active : List Bool) (h : ∀ i, i < n → active.getD i false = true → ∀ p ∈ (cellOf i).planes, PlaneOK active (cellOf i).idx p) : (build u n cellOf (some active)).faces = integratorFacesSym n cellOf active` -/
theorem stored_faces_eq_sym : type_of% @MVoro.TessBook.build_faces_eq_sym := @MVoro.TessBook.build_faces_eq_sym

/-- T13.2 cell integrals come in index order of the constructed cells

Statement (`MVoro.TessBook.zipData_fst`): `{D} (n : Nat) (active : List Bool) (data : List D) (h : n ≤ data.length) : (zipData n active data).map Prod.fst = (List.range n).filter (fun i => active.getD i false)` -/
theorem cell_integrals_order : type_of% @MVoro.TessBook.zipData_fst := @MVoro.TessBook.zipData_fst

end MVoro.C13
