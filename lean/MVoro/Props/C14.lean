/-
C14 — custom integrals receive an exact signed decomposition of the cell

Property theorems.  Proofs live in the imported `MVoro.Proofs.*` modules; every theorem below is the
proved statement itself (`type_of%`), its source text is repeated in the doc comment (without the `variable`s and local
notations of the section it stands in).  GENERATED by tools/mkprops.py from tools/props_table.py; edit that.
-/
import MVoro.Proofs.Surface
import MVoro.Proofs.TessBook

namespace MVoro.C14

/-- T14.1 for a closed oriented triangulated surface the signed sum of apex-tetrahedron volumes does not depend on the apex (degree 0)

Statement (`MVoro.Surface.volume_apex_indep`): `{T : List Tri} (h : ClosedSurf T) (g g' : V3 ℝ) : (T.map (tetVol g)).sum = (T.map (tetVol g')).sum` -/
theorem volume_indep_of_apex : type_of% @MVoro.Surface.volume_apex_indep := @MVoro.Surface.volume_apex_indep

/-- T14.1 nor does the signed sum of first moments (degree 1)

Statement (`MVoro.Surface.m1_apex_indep`): `{T : List Tri} (h : ClosedSurf T) (g g' : V3 ℝ) : (T.map (m1 g)).foldr (· + ·) zero3 = (T.map (m1 g')).foldr (· + ·) zero3` -/
theorem first_moment_indep_of_apex : type_of% @MVoro.Surface.m1_apex_indep := @MVoro.Surface.m1_apex_indep

/-- T14.1 nor the signed sum of second moments, for every pair of directions (degree 2)

Statement (`MVoro.Surface.m2_apex_indep`): `{T : List Tri} (h : ClosedSurf T) (u w g g' : V3 ℝ) : (T.map (fun t => m2 g t u w)).sum = (T.map (fun t => m2 g' t u w)).sum` -/
theorem second_moment_indep_of_apex : type_of% @MVoro.Surface.m2_apex_indep := @MVoro.Surface.m2_apex_indep

/-- T04.2/T14 the vector areas of a closed oriented surface sum to zero

Statement (`MVoro.Surface.closure`): `{T : List Tri} (h : ClosedSurf T) : (T.map vecArea).foldr (· + ·) zero3 = zero3` -/
theorem closure : type_of% @MVoro.Surface.closure := @MVoro.Surface.closure

/-- T04.2 one third of sum (vector area . (triangle centroid - g)) is the signed tetrahedron sum

Statement (`MVoro.Surface.divergence`): `(T : List Tri) (g : V3 ℝ) : (1/3) * (T.map (fun t => V3.dot (vecArea t) (triCentroid t - g))).sum = - (T.map (tetVol g)).sum` -/
theorem divergence_identity : type_of% @MVoro.Surface.divergence := @MVoro.Surface.divergence

/-- non-vacuity: the four faces of any tetrahedron satisfy the hypothesis ClosedSurf

Statement (`MVoro.Surface.tetFaces_closed`): `(pos : Nat → V3 ℝ) : ClosedSurf (tetFaces.map (toTri pos))` -/
theorem tetrahedron_is_closed_surface : type_of% @MVoro.Surface.tetFaces_closed := @MVoro.Surface.tetFaces_closed

/-- T14.2 splitting an edge (a,b) at any point of its line (the foot point used by the decomposition without faces) does not change the signed vector area seen from P

Statement (`MVoro.Surface.split_edge_area`): `(P a b : V3 ℝ) (s : ℝ) : area3 P a (lerp a b s) + area3 P (lerp a b s) b = area3 P a b` -/
theorem edge_split_area : type_of% @MVoro.Surface.split_edge_area := @MVoro.Surface.split_edge_area

/-- T14.2 same, projected on the face normal

Statement (`MVoro.Surface.split_edge_areaN`): `(n P a b : V3 ℝ) (s : ℝ) : areaN n P a (lerp a b s) + areaN n P (lerp a b s) b = areaN n P a b` -/
theorem edge_split_area_normal : type_of% @MVoro.Surface.split_edge_areaN := @MVoro.Surface.split_edge_areaN

/-- T14.2 nor the first moment

Statement (`MVoro.Surface.split_edge_moment1`): `(n P a b : V3 ℝ) (s : ℝ) : mom1N n P a (lerp a b s) + mom1N n P (lerp a b s) b = mom1N n P a b` -/
theorem edge_split_first_moment : type_of% @MVoro.Surface.split_edge_moment1 := @MVoro.Surface.split_edge_moment1

/-- T14.2 the fan triangulation of a closed polygon has the same vector area from every origin: decomposition with faces = without faces as signed measures on each face

Statement (`MVoro.Surface.fan_origin_indep`): `(P : V3 ℝ) (l : List (V3 ℝ)) : ((l.zip (l.rotate 1)).map (fun e => area3 P e.1 e.2)).foldr (· + ·) zero3 = ((l.zip (l.rotate 1)).map (fun e => V3.smul (1/2) (V3.cross e.1 e.2))).foldr (· + ·) zero3` -/
theorem fan_origin_indep : type_of% @MVoro.Surface.fan_origin_indep := @MVoro.Surface.fan_origin_indep

/-- T14.4 zipping the unfiltered cell list with the data delivers data[i] to the cell with index i, for every mask

Statement (`MVoro.TessBook.zipData_mem`): `{D} (n : Nat) (active : List Bool) (data : List D) (i : Nat) (d : D) : (i, d) ∈ zipData n active data ↔ i < n ∧ active.getD i false = true ∧ data[i]? = some d` -/
theorem data_alignment : type_of% @MVoro.TessBook.zipData_mem := @MVoro.TessBook.zipData_mem

/-- T14.4 and in increasing index order

Statement (`MVoro.TessBook.zipData_spec`): `{D} (n : Nat) (active : List Bool) (data : List D) : zipData n active data = (List.range n).filterMap (fun i => if active.getD i false then data[i]?.map (fun d => (i, d)) else none)` -/
theorem data_alignment_order : type_of% @MVoro.TessBook.zipData_spec := @MVoro.TessBook.zipData_spec

end MVoro.C14
