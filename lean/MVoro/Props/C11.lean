/-
C11 — all arbitrary-precision backends give identical results.

Statements about the translator output: `Gen.inSphereDet` (the one, backend-independent source text of the
determinant, generic in the `Integer` type) and `Gen.signExtract_<backend>` (the `cfg`-selected sign
extraction arm of each of the five backends), both regenerated from src/geometry.rs on every run.
Modelled, not verified: each big-integer crate implements ℤ (`+ - *`, `signum`, `sign`, comparison).
-/
import MVoro.Obl.InSphere
namespace MVoro.C11
open MVoro

/-- T11.1 every backend's arm is `Int.sign`: the five arms agree on every integer -/
theorem sign_arms_agree (d : Int) :
    Gen.signExtract_dashu d = Gen.signExtract_ibig d ∧ Gen.signExtract_rug d = Gen.signExtract_ibig d ∧
    Gen.signExtract_malachite d = Gen.signExtract_ibig d ∧ Gen.signExtract_num_bigint d = Gen.signExtract_ibig d := by
  obtain ⟨h1, h2, h3, h4, h5⟩ := Obl.gen_signExtract_eq d
  exact ⟨h2.trans h1.symm, h3.trans h1.symm, h4.trans h1.symm, h5.trans h1.symm⟩

/-- T11.1 the common value is one of -1, 0, 1 -/
theorem sign_arm_values (d : Int) :
    Gen.signExtract_ibig d = -1 ∨ Gen.signExtract_ibig d = 0 ∨ Gen.signExtract_ibig d = 1 := by
  rw [(Obl.gen_signExtract_eq d).1]
  rcases Int.lt_trichotomy d 0 with h | rfl | h
  exacts [.inl (Int.sign_eq_neg_one_of_neg h), .inr (.inl rfl), .inr (.inr (Int.sign_eq_one_of_pos h))]

/-- T11.2 the predicate of every backend = its arm applied to the same determinant = the sign of the reference
determinant: identical predicate signs on every 5-tuple of integer points -/
theorem predicate_backend_independent (a b c d v : I3 Int) :
    Gen.signExtract_ibig (Gen.inSphereDet a b c d v) = Int.sign (Ref.inSphereDet a b c d v) ∧
    Gen.signExtract_dashu (Gen.inSphereDet a b c d v) = Int.sign (Ref.inSphereDet a b c d v) ∧
    Gen.signExtract_rug (Gen.inSphereDet a b c d v) = Int.sign (Ref.inSphereDet a b c d v) ∧
    Gen.signExtract_malachite (Gen.inSphereDet a b c d v) = Int.sign (Ref.inSphereDet a b c d v) ∧
    Gen.signExtract_num_bigint (Gen.inSphereDet a b c d v) = Int.sign (Ref.inSphereDet a b c d v) := by
  obtain ⟨h1, h2, h3, h4, h5⟩ := Obl.gen_signExtract_eq (Gen.inSphereDet a b c d v)
  rw [h1, h2, h3, h4, h5, Obl.gen_inSphereDet_eq]
  exact ⟨rfl, rfl, rfl, rfl, rfl⟩

/-- non-vacuity: a negative, a zero and a positive determinant through two structurally different arms -/
example : Gen.signExtract_malachite (-5) = -1 ∧ Gen.signExtract_ibig 0 = 0 ∧ Gen.signExtract_num_bigint 12 = 1 := by
  decide

end MVoro.C11
