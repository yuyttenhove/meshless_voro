/-
C18 — clipping a cell is independent of vertex storage order

Property theorems.  Proofs live in the imported `MVoro.Proofs.*` modules; every theorem below is the
proved statement itself (`type_of%`), its source text is repeated in the doc comment (without the `variable`s and local
notations of the section it stands in).  GENERATED by tools/mkprops.py from tools/props_table.py; edit that.
-/
import MVoro.Proofs.CycleBoundary
import MVoro.Proofs.CycleWalk
import MVoro.Proofs.ClipModel
import MVoro.Proofs.ModelReach
import MVoro.Proofs.ClipOrder

namespace MVoro.C18

/-- T18.2 one successful `try_extend` keeps "cycle edges = boundary of the triangles added so far"

Statement (`MVoro.CycleBoundary.step_closed`): `{T D : List Dual} {t t' : Dual} {succ succ' : Nat → Nat} (hT : Closed T) (hD : D ⊆ T) (hDn : D.Nodup) (htT : t ∈ T) (htD : t ∉ D) (hI : Inv succ D) (hr : IsRot t' t) (hopen : Open t D) (h : aTryRot succ t'.a t'.b t'.c = some succ') : Inv succ' (t :: D)` -/
theorem step_keeps_boundary : type_of% @MVoro.CycleBoundary.step_closed := @MVoro.CycleBoundary.step_closed

/-- T18.2 after `init` the cycle is the boundary of the first triangle

Statement (`MVoro.CycleBoundary.init_inv`): `{t : Dual} (hab : t.a ≠ t.b) (hbc : t.b ≠ t.c) (hca : t.c ≠ t.a) : Inv (triSucc t.a t.b t.c) [t]` -/
theorem init_boundary : type_of% @MVoro.CycleBoundary.init_inv := @MVoro.CycleBoundary.init_inv

/-- T18.2 the closing triangle of a full sphere must be excluded: the code would leave a wrong 2-cycle

Statement (`MVoro.CycleBoundary.step_del_closing_false`): `{succ : Nat → Nat} {t : Dual} {D : List Dual} {ti tj tk : Nat} (hI : CInv succ D) (hc : Cond2 succ ti tj tk) (hclose : succ ti = tk) : ¬ CInv (del succ ti tj tk) (t :: D)` -/
theorem closing_triangle_excluded_necessarily : type_of% @MVoro.CycleBoundary.step_del_closing_false := @MVoro.CycleBoundary.step_del_closing_false

/-- T18.3 whenever the greedy reconstruction succeeds the cycle is exactly the boundary of the removed set

Statement (`MVoro.CycleBoundary.greedy_inv`): `{R : List Dual} {succ : Nat → Nat} (h : Greedy R succ) (hN : (edgesOf R).Nodup) : Inv succ R` -/
theorem greedy_gives_boundary : type_of% @MVoro.CycleBoundary.greedy_inv := @MVoro.CycleBoundary.greedy_inv

/-- T18.3 the boundary does not depend on the storage order of the removed vertices

Statement (`MVoro.CycleBoundary.bdry_perm`): `{R R' : List Dual} (h : R.Perm R') : ∀ e, e ∈ bdry R ↔ e ∈ bdry R'` -/
theorem boundary_perm_invariant : type_of% @MVoro.CycleBoundary.bdry_perm := @MVoro.CycleBoundary.bdry_perm

/-- T18.3 nor on the rotation of a dual triple

Statement (`MVoro.CycleBoundary.bdry_rot`): `(R₁ R₂ : List Dual) (d : Dual) : ∀ e, e ∈ bdry (R₁ ++ d :: R₂) ↔ e ∈ bdry (R₁ ++ d.rot :: R₂)` -/
theorem boundary_rot_invariant : type_of% @MVoro.CycleBoundary.bdry_rot := @MVoro.CycleBoundary.bdry_rot

/-- T18.3 two successful runs on permuted / rotated inputs end with the same successor function

Statement (`MVoro.CycleBoundary.greedy_canonical`): `{R₁ R₂ : List Dual} {s₁ s₂ : Nat → Nat} (h₁ : Greedy R₁ s₁) (h₂ : Greedy R₂ s₂) (hN₁ : (edgesOf R₁).Nodup) (hN₂ : (edgesOf R₂).Nodup) (hrp : RotPerm R₁ R₂) : (∀ x y, (s₁ x = y ∧ x ≠ y) ↔ (s₂ x = y ∧ x ≠ y)) ∧ s₁ = s₂` -/
theorem greedy_canonical : type_of% @MVoro.CycleBoundary.greedy_canonical := @MVoro.CycleBoundary.greedy_canonical

/-- T18.1 the array `try_extend` implements the abstract step (success and failure)

Statement (`MVoro.CycleBoundary.tryExtend_refines`): `(c : Cycle) {a b d : Nat} (ha : a < c.ptrs.size) (hb : b < c.ptrs.size) (hd : d < c.ptrs.size) : (c.tryExtend a b d).map Cycle.get = aTryExtend c.get ⟨a, b, d⟩` -/
theorem array_refines_abstract : type_of% @MVoro.CycleBoundary.tryExtend_refines := @MVoro.CycleBoundary.tryExtend_refines

/-- T18.1 `init` (reset walk + triangle) gives the triangle successor function

Statement (`MVoro.CycleBoundary.init_get`): `{c : Cycle} {a b d : Nat} (hnd : (Cycle.walk c.len c c.start).Nodup) (hcov : ∀ x, c.get x ≠ x → x ∈ Cycle.walk c.len c c.start) (ha : a < c.ptrs.size) (hb : b < c.ptrs.size) (hd : d < c.ptrs.size) : (c.init a b d).get = triSucc a b d ∧ (c.init a b d).len = 3 ∧ (c.init a b d).start = a ∧ (c.init a b d).ptrs.size = c.ptrs.size` -/
theorem init_refines : type_of% @MVoro.CycleBoundary.init_get := @MVoro.CycleBoundary.init_get

/-- T18.3 on the executable model: a successful `compute_boundary` ends with the boundary of the removed set

Statement (`MVoro.CycleBoundary.computeBoundary_bdry`): `{dual : V → Dual} {c c' : Cycle} {vs vs' : Array V} (hnd : (Cycle.walk c.len c c.start).Nodup) (hcov : ∀ x, c.get x ≠ x → x ∈ Cycle.walk c.len c c.start) (hR : ∀ v ∈ vs.toList, InRange c.ptrs.size (dual v)) (hdist : ∀ h : 0 < vs.size, (dual vs[0]).a ≠ (dual vs[0]).b ∧ (dual vs[0]).b ≠ (dual vs[0]).c ∧ (dual vs[0]).c ≠ (dual vs[0]).a) (hN : (edgesOf (vs.toList.map dual)).Nodup) (hNC : NoClosedPart (vs.toList.map dual)) (h : Clip.computeBoundary dual c vs = some (c', vs')) : Inv c'.get (vs.toList.map dual) ∧ Conn c'.get` -/
theorem compute_boundary_is_boundary : type_of% @MVoro.CycleBoundary.computeBoundary_bdry := @MVoro.CycleBoundary.computeBoundary_bdry

/-- T18.3 on the executable model: same final cycle for every storage order and rotation

Statement (`MVoro.CycleBoundary.computeBoundary_canonical`): `{dual : V → Dual} {c₁ c₁' c₂ c₂' : Cycle} {vs₁ vs₁' vs₂ vs₂' : Array V} (hnd₁ : (Cycle.walk c₁.len c₁ c₁.start).Nodup) (hcov₁ : ∀ x, c₁.get x ≠ x → x ∈ Cycle.walk c₁.len c₁ c₁.start) (hR₁ : ∀ v ∈ vs₁.toList, InRange c₁.ptrs.size (dual v)) (hdist₁ : ∀ h : 0 < vs₁.size, (dual vs₁[0]).a ≠ (dual vs₁[0]).b ∧ (dual vs₁[0]).b ≠ (dual vs₁[0]).c ∧ (dual vs₁[0]).c ≠ (dual vs₁[0]).a) (hN₁ : (edgesOf (vs₁.toList.map dual)).Nodup) (hNC₁ : NoClosedPart (vs₁.toList.map dual)) (h₁ : Clip.computeBoundary dual c₁ vs₁ = some (c₁', vs₁')) (hnd₂ : (Cycle.walk c₂.len c₂ c₂.start).Nodup) (hcov₂ : ∀ x, c₂.get x ≠ x → x ∈ Cycle.walk c₂.len c₂ c₂.start) (hR₂ : ∀ v ∈ vs₂.toList, InRange c₂.ptrs.size (dual v)) (hdist₂ : ∀ h : 0 < vs₂.size, (dual vs₂[0]).a ≠ (dual vs₂[0]).b ∧ (dual vs₂[0]).b ≠ (dual vs₂[0]).c ∧ (dual vs₂[0]).c ≠ (dual vs₂[0]).a) (hN₂ : (edgesOf (vs₂.toList.map dual)).Nodup) (hNC₂ : NoClosedPart (vs₂.toList.map dual)) (h₂ : Clip.computeBoundary dual c₂ vs₂ = some (c₂', vs₂')) (hrp : RotPerm (vs₁.toList.map dual) (vs₂.toList.map dual)) : c₁'.get = c₂'.get` -/
theorem compute_boundary_canonical : type_of% @MVoro.CycleBoundary.computeBoundary_canonical := @MVoro.CycleBoundary.computeBoundary_canonical

/-- T18.3 the new vertices are one per boundary edge

Statement (`MVoro.CycleBoundary.pairs_closedWalk_perm`): `{c : Cycle} {R : List Dual} (hnd : (Cycle.walk c.len c c.start).Nodup) (hcov : ∀ x, c.get x ≠ x ↔ x ∈ Cycle.walk c.len c c.start) (hI : CInv c.get R) (hN : (edgesOf R).Nodup) : (Clip.pairs c.closedWalk).Perm (bdry R)` -/
theorem new_vertices_are_boundary_edges : type_of% @MVoro.CycleBoundary.pairs_closedWalk_perm := @MVoro.CycleBoundary.pairs_closedWalk_perm

/-- T18.4 the clipped triple set is again a closed surface

Statement (`MVoro.CycleBoundary.closed_preserved`): `{T R : List Dual} {p : Nat} {succ : Nat → Nat} (hT : Closed T) (hR : R ⊆ T) (hRn : R.Nodup) (hp : ∀ d ∈ T, d.a ≠ p ∧ d.b ≠ p ∧ d.c ≠ p) (hI : Inv succ R) : Closed (clipDuals T R p)` -/
theorem closed_preserved : type_of% @MVoro.CycleBoundary.closed_preserved := @MVoro.CycleBoundary.closed_preserved

/-- T18.4 same, from a successful greedy run

Statement (`MVoro.CycleBoundary.greedy_closed`): `{T R : List Dual} {p : Nat} {succ : Nat → Nat} (hT : Closed T) (hR : R ⊆ T) (hRn : R.Nodup) (hp : ∀ d ∈ T, d.a ≠ p ∧ d.b ≠ p ∧ d.c ≠ p) (hG : Greedy R succ) : Closed (clipDuals T R p)` -/
theorem greedy_closed : type_of% @MVoro.CycleBoundary.greedy_closed := @MVoro.CycleBoundary.greedy_closed

/-- T18.2 the side condition (triangle still open) is automatic when the removed set has no closed part, and the cycle stays a single cycle

Statement (`MVoro.CycleBoundary.greedy_of_raw`): `{R : List Dual} {succ : Nat → Nat} (h : GreedyRaw R succ) (hN : (edgesOf R).Nodup) (hR : NoClosedPart R) : Greedy R succ ∧ Conn succ` -/
theorem no_closed_part_automatic : type_of% @MVoro.CycleBoundary.greedy_of_raw := @MVoro.CycleBoundary.greedy_of_raw

/-- T18.1 (bookkeeping) if `start` lies on the cycle and `len` is the number of entries on it, `len` steps from `start` visit every entry of the (single, injective) cycle exactly once

Statement (`MVoro.CycleWalk.walk_spec`): `{f : Nat → Nat} {start len : Nat} (h : WInv f start len) : (orbit f start len).Nodup ∧ ∀ x, f x ≠ x ↔ x ∈ orbit f start len` -/
theorem walk_visits_cycle_once : type_of% @MVoro.CycleWalk.walk_spec := @MVoro.CycleWalk.walk_spec

/-- T18.1 `init` (reset walk + triangle) leaves `start`/`len` describing the triangle

Statement (`MVoro.CycleWalk.init_cw`): `{c : Cycle} {a b d : Nat} (hnd : (Cycle.walk c.len c c.start).Nodup) (hcov : ∀ x, c.get x ≠ x → x ∈ Cycle.walk c.len c c.start) (ha : a < c.ptrs.size) (hb : b < c.ptrs.size) (hd : d < c.ptrs.size) (hab : a ≠ b) (hbd : b ≠ d) (hda : d ≠ a) : CW (c.init a b d)` -/
theorem init_establishes_bookkeeping : type_of% @MVoro.CycleWalk.init_cw := @MVoro.CycleWalk.init_cw

/-- T18.1 every successful `try_extend` (insert: `len + 1`; delete: `len - 1`, `start` moved off the deleted entry) keeps `start`/`len` describing the stored cycle

Statement (`MVoro.CycleWalk.tryExtend_cw`): `{c c' : Cycle} {a b d : Nat} (ha : a < c.ptrs.size) (hb : b < c.ptrs.size) (hd : d < c.ptrs.size) (hab : a ≠ b) (hbd : b ≠ d) (hda : d ≠ a) (hc : CW c) (h : c.tryExtend a b d = some c') : CW c'` -/
theorem try_extend_keeps_bookkeeping : type_of% @MVoro.CycleWalk.tryExtend_cw := @MVoro.CycleWalk.tryExtend_cw

/-- T18.1 after a successful `compute_boundary` `start`/`len` describe the stored cycle

Statement (`MVoro.CycleWalk.computeBoundary_cw`): `{dual : V → Dual} {c c' : Cycle} {vs vs' : Array V} (hnd : (Cycle.walk c.len c c.start).Nodup) (hcov : ∀ x, c.get x ≠ x → x ∈ Cycle.walk c.len c c.start) (hR : ∀ v ∈ vs.toList, InRange c.ptrs.size (dual v) ∧ Distinct (dual v)) (h : Clip.computeBoundary dual c vs = some (c', vs')) : CW c'` -/
theorem compute_boundary_keeps_bookkeeping : type_of% @MVoro.CycleWalk.computeBoundary_cw := @MVoro.CycleWalk.computeBoundary_cw

/-- T18.3 end to end: the `(cur, next)` pairs read from `iter().take(len + 1)` after `compute_boundary` are exactly the boundary edges of the removed region, each once

Statement (`MVoro.CycleWalk.computeBoundary_pairs`): `{dual : V → Dual} {c c' : Cycle} {vs vs' : Array V} (hnd : (Cycle.walk c.len c c.start).Nodup) (hcov : ∀ x, c.get x ≠ x → x ∈ Cycle.walk c.len c c.start) (hR : ∀ v ∈ vs.toList, InRange c.ptrs.size (dual v) ∧ Distinct (dual v)) (hN : (edgesOf (vs.toList.map dual)).Nodup) (hNC : NoClosedPart (vs.toList.map dual)) (h : Clip.computeBoundary dual c vs = some (c', vs')) : (Clip.pairs c'.closedWalk).Perm (bdry (vs.toList.map dual))` -/
theorem new_vertex_pairs_are_boundary_edges : type_of% @MVoro.CycleWalk.computeBoundary_pairs := @MVoro.CycleWalk.computeBoundary_pairs

/-- T18.1 the state left behind satisfies the reset invariant the next `init` needs

Statement (`MVoro.CycleWalk.computeBoundary_reset`): `{dual : V → Dual} {c c' : Cycle} {vs vs' : Array V} (hnd : (Cycle.walk c.len c c.start).Nodup) (hcov : ∀ x, c.get x ≠ x → x ∈ Cycle.walk c.len c c.start) (hR : ∀ v ∈ vs.toList, InRange c.ptrs.size (dual v) ∧ Distinct (dual v)) (h : Clip.computeBoundary dual c vs = some (c', vs')) : (Cycle.walk c'.len c' c'.start).Nodup ∧ ∀ x, c'.get x ≠ x → x ∈ Cycle.walk c'.len c' c'.start` -/
theorem next_clip_may_reset : type_of% @MVoro.CycleWalk.computeBoundary_reset := @MVoro.CycleWalk.computeBoundary_reset

/-- the partition loop of `clip_by_plane` returns a permutation of the vertex array whose first `num_v` entries are exactly the kept vertices

Statement (`MVoro.ClipModel.partitionLoop_spec`): `(removed : V → Bool) : ∀ (fuel i numV : Nat) (vs : Array V), PInv removed i numV vs → numV - i ≤ fuel → ((Clip.partitionLoop removed fuel i numV vs).1.toList.Perm vs.toList) ∧ PInv removed (Clip.partitionLoop removed fuel i numV vs).2 (Clip.partitionLoop removed fuel i numV vs).2 (Clip.partitionLoop removed fuel i numV vs).1` -/
theorem partition_loop_spec : type_of% @MVoro.ClipModel.partitionLoop_spec := @MVoro.ClipModel.partitionLoop_spec

/-- C18 itself, abstractly: two lists holding the same triples up to rotation, with corresponding triples removed in both or in neither, are clipped to two lists holding the same triples up to rotation

Statement (`MVoro.ClipOrder.clipDuals_sameUpToRot`): `{T₁ T₂ R₁ R₂ : List Dual} {p : Nat} (hR₁ : R₁ ⊆ T₁) (hR₂ : R₂ ⊆ T₂) (hT : SameUpToRot T₁ T₂) (hrel : ∀ d ∈ T₁, ∀ d' ∈ T₂, IsRot d' d → (d ∈ R₁ ↔ d' ∈ R₂)) : SameUpToRot (clipDuals T₁ R₁ p) (clipDuals T₂ R₂ p)` -/
theorem abstract_clip_order_independent : type_of% @MVoro.ClipOrder.clipDuals_sameUpToRot := @MVoro.ClipOrder.clipDuals_sameUpToRot

/-- C18 itself, for the executable model of clip_by_plane: whatever the storage order of the vertices and the rotation of their plane triples, two successful clips with the same decisions give the same set of vertices as cyclically ordered plane triples

Statement (`MVoro.ClipOrder.model_clip_order_independent`): `{dual : V → Dual} {mk : Nat → Nat → Nat → V} {rem₁ rem₂ : V → Bool} {p : Nat} {cyc₁ cyc₁' cyc₂ cyc₂' : Cycle} {vs₁ out₁ vs₂ out₂ : Array V} (hmk : ∀ x y z, dual (mk x y z) = ⟨x, y, z⟩) (hnd₁ : (Cycle.walk cyc₁.grow.len cyc₁.grow cyc₁.grow.start).Nodup) (hcov₁ : ∀ x, cyc₁.grow.get x ≠ x → x ∈ Cycle.walk cyc₁.grow.len cyc₁.grow cyc₁.grow.start) (hR₁ : ∀ v ∈ vs₁.toList, InRange cyc₁.grow.ptrs.size (dual v) ∧ Distinct (dual v)) (hT₁ : (edgesOf (vs₁.toList.map dual)).Nodup) (hNC₁ : ∀ R : List Dual, R.Perm ((vs₁.toList.filter fun v => rem₁ v).map dual) → NoClosedPart R) (h₁ : Clip.clip dual mk rem₁ p cyc₁ vs₁ = .clipped cyc₁' out₁) (hnd₂ : (Cycle.walk cyc₂.grow.len cyc₂.grow cyc₂.grow.start).Nodup) (hcov₂ : ∀ x, cyc₂.grow.get x ≠ x → x ∈ Cycle.walk cyc₂.grow.len cyc₂.grow cyc₂.grow.start) (hR₂ : ∀ v ∈ vs₂.toList, InRange cyc₂.grow.ptrs.size (dual v) ∧ Distinct (dual v)) (hT₂ : (edgesOf (vs₂.toList.map dual)).Nodup) (hNC₂ : ∀ R : List Dual, R.Perm ((vs₂.toList.filter fun v => rem₂ v).map dual) → NoClosedPart R) (h₂ : Clip.clip dual mk rem₂ p cyc₂ vs₂ = .clipped cyc₂' out₂) (hsame : SameUpToRot (vs₁.toList.map dual) (vs₂.toList.map dual)) (hrel : ∀ d ∈ vs₁.toList.map dual, ∀ d' ∈ vs₂.toList.map dual, IsRot d' d → (d ∈ (vs₁.toList.filter fun v => rem₁ v).map dual ↔ d' ∈ (vs₂.toList.filter fun v => rem₂ v).map dual)) : SameUpToRot (out₁.toList.map dual) (out₂.toList.map dual)` -/
theorem model_clip_order_independent : type_of% @MVoro.ClipOrder.model_clip_order_independent := @MVoro.ClipOrder.model_clip_order_independent

/-- T18.4 closedness, three planes per vertex, one umbrella per plane and Euler do not depend on the storage order of the vertices

Statement (`MVoro.ModelReach.sgood_perm`): `{T T' : List Dual} (h : T.Perm T') (hg : SGood T) : SGood T'` -/
theorem invariants_independent_of_storage_order : type_of% @MVoro.ModelReach.sgood_perm := @MVoro.ModelReach.sgood_perm

/-- T18.4 at full strength for the executable model: if the duals of the vertex array form a closed surface with three planes per vertex, one umbrella per plane and V - E + F = 2, and `clip_by_plane` (model) succeeds, the duals of the new vertex array do again

Statement (`MVoro.ModelReach.model_clip_good`): `{dual : V → Dual} {mk : Nat → Nat → Nat → V} {removed : V → Bool} {p : Nat} {cyc cyc' : Cycle} {vs out : Array V} (hmk : ∀ x y z, dual (mk x y z) = ⟨x, y, z⟩) (hnd : (Cycle.walk cyc.grow.len cyc.grow cyc.grow.start).Nodup) (hcov : ∀ x, cyc.grow.get x ≠ x → x ∈ Cycle.walk cyc.grow.len cyc.grow cyc.grow.start) (hRange : ∀ v ∈ vs.toList, InRange cyc.grow.ptrs.size (dual v)) (hg : SGood (vs.toList.map dual)) (hNC : ∀ R : List Dual, R.Perm ((vs.toList.filter fun v => removed v).map dual) → NoClosedPart R) (hp : ∀ d ∈ vs.toList.map dual, ¬ HasPlane d p) (h : Clip.clip dual mk removed p cyc vs = .clipped cyc' out) : SGood (out.toList.map dual)` -/
theorem model_clip_keeps_polytope_invariants : type_of% @MVoro.ModelReach.model_clip_good := @MVoro.ModelReach.model_clip_good

/-- T18.3/T18.4 `clip_by_plane` (executable model) end to end: the clipped vertex array is, as a multiset of dual triples, `clipDuals T R p` = kept triples + one `(cur, next, p)` per boundary edge of the removed region - for every storage order and every rotation of the triples

Statement (`MVoro.ClipModel.clip_spec`): `{dual : V → Dual} {mk : Nat → Nat → Nat → V} {removed : V → Bool} {p : Nat} {cyc cyc' : Cycle} {vs out : Array V} (hmk : ∀ x y z, dual (mk x y z) = ⟨x, y, z⟩) (hnd : (Cycle.walk cyc.grow.len cyc.grow cyc.grow.start).Nodup) (hcov : ∀ x, cyc.grow.get x ≠ x → x ∈ Cycle.walk cyc.grow.len cyc.grow cyc.grow.start) (hR : ∀ v ∈ vs.toList, InRange cyc.grow.ptrs.size (dual v) ∧ Distinct (dual v)) (hT : (edgesOf (vs.toList.map dual)).Nodup) (hNC : ∀ R : List Dual, R.Perm ((vs.toList.filter fun v => removed v).map dual) → NoClosedPart R) (h : Clip.clip dual mk removed p cyc vs = .clipped cyc' out) : (out.toList.map dual).Perm (clipDuals (vs.toList.map dual) ((vs.toList.filter fun v => removed v).map dual) p)` -/
theorem clip_is_clipDuals : type_of% @MVoro.ClipModel.clip_spec := @MVoro.ClipModel.clip_spec

end MVoro.C18
