/-
C19 — public geometry helpers satisfy their defining equations

Property theorems.  Proofs live in the imported `MVoro.Proofs.*` modules; every theorem below is the
proved statement itself (`type_of%`), its source text is repeated in the doc comment (without the `variable`s and local
notations of the section it stands in).  GENERATED by tools/mkprops.py from tools/props_table.py; edit that.
-/
import MVoro.Proofs.GeomHelpers

namespace MVoro.C19

/-- T19.1 the three-plane intersection lies on all three planes

Statement (`MVoro.GeomHelpers.intersectPlanes_on`): `(p0 p1 p2 : Plane ℝ) (hdet : det3cols p0.n p1.n p2.n ≠ 0) : V3.dot p0.n (Ref.intersectPlanes p0 p1 p2 - p0.p) = 0 ∧ V3.dot p1.n (Ref.intersectPlanes p0 p1 p2 - p1.p) = 0 ∧ V3.dot p2.n (Ref.intersectPlanes p0 p1 p2 - p2.p) = 0` -/
theorem intersect_planes_on : type_of% @MVoro.GeomHelpers.intersectPlanes_on := @MVoro.GeomHelpers.intersectPlanes_on

/-- T19.1 and is the only such point

Statement (`MVoro.GeomHelpers.intersectPlanes_unique`): `(p0 p1 p2 : Plane ℝ) (hdet : det3cols p0.n p1.n p2.n ≠ 0) (q : V3 ℝ) (h0 : V3.dot p0.n (q - p0.p) = 0) (h1 : V3.dot p1.n (q - p1.p) = 0) (h2 : V3.dot p2.n (q - p2.p) = 0) : q = Ref.intersectPlanes p0 p1 p2` -/
theorem intersect_planes_unique : type_of% @MVoro.GeomHelpers.intersectPlanes_unique := @MVoro.GeomHelpers.intersectPlanes_unique

/-- T19.2 the projection lands on the plane

Statement (`MVoro.GeomHelpers.projectOnto_on_plane`): `(pl : Plane ℝ) (q : V3 ℝ) (hn : V3.dot pl.n pl.n ≠ 0) : V3.dot pl.n (Ref.projectOnto pl q - pl.p) = 0` -/
theorem project_onto_on_plane : type_of% @MVoro.GeomHelpers.projectOnto_on_plane := @MVoro.GeomHelpers.projectOnto_on_plane

/-- T19.2 along the normal

Statement (`MVoro.GeomHelpers.projectOnto_parallel`): `(pl : Plane ℝ) (q : V3 ℝ) : Ref.projectOnto pl q - q = V3.smul (V3.dot (pl.p - q) pl.n / V3.dot pl.n pl.n) pl.n` -/
theorem project_onto_along_normal : type_of% @MVoro.GeomHelpers.projectOnto_parallel := @MVoro.GeomHelpers.projectOnto_parallel

/-- T19.2 idempotent

Statement (`MVoro.GeomHelpers.projectOnto_idem`): `(pl : Plane ℝ) (q : V3 ℝ) : Ref.projectOnto pl (Ref.projectOnto pl q) = Ref.projectOnto pl q` -/
theorem project_onto_idempotent : type_of% @MVoro.GeomHelpers.projectOnto_idem := @MVoro.GeomHelpers.projectOnto_idem

/-- T19.2 the projection onto the intersection lies on both planes and is orthogonal

Statement (`MVoro.GeomHelpers.projectOntoIntersection_on`): `(self other : Plane ℝ) (point : V3 ℝ) (h : V3.norm2 (V3.cross self.n other.n) ≠ 0) : V3.dot self.n (Ref.projectOntoIntersection self other point - self.p) = 0 ∧ V3.dot other.n (Ref.projectOntoIntersection self other point - other.p) = 0 ∧ V3.dot (Ref.projectOntoIntersection self other point - point) (V3.cross self.n other.n) = 0` -/
theorem project_onto_intersection_on : type_of% @MVoro.GeomHelpers.projectOntoIntersection_on := @MVoro.GeomHelpers.projectOntoIntersection_on

/-- T19.2 idempotent

Statement (`MVoro.GeomHelpers.projectOntoIntersection_idem`): `(self other : Plane ℝ) (point : V3 ℝ) (h : V3.norm2 (V3.cross self.n other.n) ≠ 0) : Ref.projectOntoIntersection self other (Ref.projectOntoIntersection self other point) = Ref.projectOntoIntersection self other point` -/
theorem project_onto_intersection_idempotent : type_of% @MVoro.GeomHelpers.projectOntoIntersection_idem := @MVoro.GeomHelpers.projectOntoIntersection_idem

/-- T19.3 antisymmetry

Statement (`MVoro.GeomHelpers.signedVolumeTet_swap01`): `(v0 v1 v2 v3 : V3 ℝ) : Ref.signedVolumeTet v1 v0 v2 v3 = -Ref.signedVolumeTet v0 v1 v2 v3` -/
theorem tet_swap01 : type_of% @MVoro.GeomHelpers.signedVolumeTet_swap01 := @MVoro.GeomHelpers.signedVolumeTet_swap01

/-- T19.3 antisymmetry

Statement (`MVoro.GeomHelpers.signedVolumeTet_swap12`): `(v0 v1 v2 v3 : V3 ℝ) : Ref.signedVolumeTet v0 v2 v1 v3 = -Ref.signedVolumeTet v0 v1 v2 v3` -/
theorem tet_swap12 : type_of% @MVoro.GeomHelpers.signedVolumeTet_swap12 := @MVoro.GeomHelpers.signedVolumeTet_swap12

/-- T19.3 antisymmetry

Statement (`MVoro.GeomHelpers.signedVolumeTet_swap02`): `(v0 v1 v2 v3 : V3 ℝ) : Ref.signedVolumeTet v2 v1 v0 v3 = -Ref.signedVolumeTet v0 v1 v2 v3` -/
theorem tet_swap02 : type_of% @MVoro.GeomHelpers.signedVolumeTet_swap02 := @MVoro.GeomHelpers.signedVolumeTet_swap02

/-- T19.3 antisymmetry

Statement (`MVoro.GeomHelpers.signedVolumeTet_swap23`): `(v0 v1 v2 v3 : V3 ℝ) : Ref.signedVolumeTet v0 v1 v3 v2 = -Ref.signedVolumeTet v0 v1 v2 v3` -/
theorem tet_swap23 : type_of% @MVoro.GeomHelpers.signedVolumeTet_swap23 := @MVoro.GeomHelpers.signedVolumeTet_swap23

/-- T19.3 positive iff v0 v1 v2 counter-clockwise seen from v3

Statement (`MVoro.GeomHelpers.signedVolumeTet_pos_iff`): `(v0 v1 v2 v3 : V3 ℝ) : 0 < Ref.signedVolumeTet v0 v1 v2 v3 ↔ 0 < V3.dot (V3.cross (v1 - v0) (v2 - v0)) (v3 - v0)` -/
theorem tet_sign_convention : type_of% @MVoro.GeomHelpers.signedVolumeTet_pos_iff := @MVoro.GeomHelpers.signedVolumeTet_pos_iff

/-- T19.3 the documented sign on the unit corner tetrahedron

Statement (`MVoro.GeomHelpers.signedVolumeTet_example`): `: Ref.signedVolumeTet (⟨0, 0, 0⟩ : V3 ℝ) ⟨1, 0, 0⟩ ⟨0, 1, 0⟩ ⟨0, 0, 1⟩ = 1 / 6` -/
theorem tet_example : type_of% @MVoro.GeomHelpers.signedVolumeTet_example := @MVoro.GeomHelpers.signedVolumeTet_example

/-- T19.3 absolute value is the triangle area

Statement (`MVoro.GeomHelpers.signedAreaTri_abs`): `(v0 v1 v2 t : V3 ℝ) : |Ref.signedAreaTri v0 v1 v2 t| = (1 / 2) * Real.sqrt (V3.norm2 (V3.cross (v1 - v0) (v2 - v0)))` -/
theorem tri_abs : type_of% @MVoro.GeomHelpers.signedAreaTri_abs := @MVoro.GeomHelpers.signedAreaTri_abs

/-- T19.3 antisymmetric (apex strictly off the plane)

Statement (`MVoro.GeomHelpers.signedAreaTri_swap`): `(v0 v1 v2 t : V3 ℝ) (h : V3.dot (t - v0) (V3.cross (v1 - v0) (v2 - v0)) ≠ 0) : Ref.signedAreaTri v0 v2 v1 t = -Ref.signedAreaTri v0 v1 v2 t` -/
theorem tri_swap : type_of% @MVoro.GeomHelpers.signedAreaTri_swap := @MVoro.GeomHelpers.signedAreaTri_swap

/-- T19.3 independent of the apex on one side

Statement (`MVoro.GeomHelpers.signedAreaTri_indep_t`): `(v0 v1 v2 t t' : V3 ℝ) (h : 0 < V3.dot (t - v0) (V3.cross (v1 - v0) (v2 - v0)) * V3.dot (t' - v0) (V3.cross (v1 - v0) (v2 - v0))) : Ref.signedAreaTri v0 v1 v2 t = Ref.signedAreaTri v0 v1 v2 t'` -/
theorem tri_indep_apex : type_of% @MVoro.GeomHelpers.signedAreaTri_indep_t := @MVoro.GeomHelpers.signedAreaTri_indep_t

/-- T19.3 sign convention

Statement (`MVoro.GeomHelpers.signedAreaTri_pos_iff`): `(v0 v1 v2 t : V3 ℝ) (hnd : V3.norm2 (V3.cross (v1 - v0) (v2 - v0)) ≠ 0) : 0 < Ref.signedAreaTri v0 v1 v2 t ↔ 0 ≤ V3.dot (t - v0) (V3.cross (v1 - v0) (v2 - v0))` -/
theorem tri_sign : type_of% @MVoro.GeomHelpers.signedAreaTri_pos_iff := @MVoro.GeomHelpers.signedAreaTri_pos_iff

/-- T19.4

Statement (`MVoro.GeomHelpers.sphere2_on`): `(a b : V3 ℝ) : (Ref.sphere2 a b).center = V3.smul (1 / 2) (a + b) ∧ 0 ≤ (Ref.sphere2 a b).radius ∧ V3.distance2 a (Ref.sphere2 a b).center = (Ref.sphere2 a b).radius ^ 2 ∧ V3.distance2 b (Ref.sphere2 a b).center = (Ref.sphere2 a b).radius ^ 2` -/
theorem sphere_two_points : type_of% @MVoro.GeomHelpers.sphere2_on := @MVoro.GeomHelpers.sphere2_on

/-- T19.4 through the points, centre in their plane

Statement (`MVoro.GeomHelpers.sphere3_on`): `(a b c : V3 ℝ) (h : V3.norm2 (V3.cross (a - c) (b - c)) ≠ 0) : 0 ≤ (Ref.sphere3 a b c).radius ∧ V3.distance2 a (Ref.sphere3 a b c).center = (Ref.sphere3 a b c).radius ^ 2 ∧ V3.distance2 b (Ref.sphere3 a b c).center = (Ref.sphere3 a b c).radius ^ 2 ∧ V3.distance2 c (Ref.sphere3 a b c).center = (Ref.sphere3 a b c).radius ^ 2 ∧ V3.dot ((Ref.sphere3 a b c).center - c) (V3.cross (a - c) (b - c)) = 0` -/
theorem sphere_three_points : type_of% @MVoro.GeomHelpers.sphere3_on := @MVoro.GeomHelpers.sphere3_on

/-- T19.4

Statement (`MVoro.GeomHelpers.sphere4_on`): `(a b c d : V3 ℝ) (h : s4aa a b c d ≠ 0) : 0 ≤ (Ref.sphere4 a b c d).radius ∧ V3.distance2 a (Ref.sphere4 a b c d).center = (Ref.sphere4 a b c d).radius ^ 2 ∧ V3.distance2 b (Ref.sphere4 a b c d).center = (Ref.sphere4 a b c d).radius ^ 2 ∧ V3.distance2 c (Ref.sphere4 a b c d).center = (Ref.sphere4 a b c d).radius ^ 2 ∧ V3.distance2 d (Ref.sphere4 a b c d).center = (Ref.sphere4 a b c d).radius ^ 2` -/
theorem sphere_four_points : type_of% @MVoro.GeomHelpers.sphere4_on := @MVoro.GeomHelpers.sphere4_on

/-- T19.4 the extended sphere passes through the point and contains the old sphere

Statement (`MVoro.GeomHelpers.extend_contains_point`): `(s : Sphere ℝ) (x : V3 ℝ) (hr : 0 < s.radius) (h : Ref.contains s x = false) : V3.distance x (Ref.extend s x).center = (Ref.extend s x).radius ∧ ∀ y : V3 ℝ, V3.distance y s.center ≤ s.radius → V3.distance y (Ref.extend s x).center ≤ (Ref.extend s x).radius` -/
theorem extend_contains : type_of% @MVoro.GeomHelpers.extend_contains_point := @MVoro.GeomHelpers.extend_contains_point

/-- T19.4 and is the smallest such sphere

Statement (`MVoro.GeomHelpers.extend_minimal`): `(s : Sphere ℝ) (x : V3 ℝ) (hr : 0 < s.radius) (h : Ref.contains s x = false) : (Ref.extend s x).radius = (V3.distance x s.center + s.radius) / 2 ∧ ∀ (c' : V3 ℝ) (R : ℝ), V3.distance x c' ≤ R → V3.distance (s.center - V3.smul s.radius (V3.normalize (x - s.center))) c' ≤ R → (Ref.extend s x).radius ≤ R` -/
theorem extend_smallest : type_of% @MVoro.GeomHelpers.extend_minimal := @MVoro.GeomHelpers.extend_minimal

/-- T19.4

Statement (`MVoro.GeomHelpers.contains_mono`): `(c x : V3 ℝ) (r r' : ℝ) (h : Ref.contains ⟨c, r⟩ x = true) (hr : r ≤ r') : Ref.contains ⟨c, r'⟩ x = true` -/
theorem contains_monotone : type_of% @MVoro.GeomHelpers.contains_mono := @MVoro.GeomHelpers.contains_mono

end MVoro.C19
