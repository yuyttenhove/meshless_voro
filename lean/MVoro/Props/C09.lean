/-
C09 — results are a pure function of the input, independent of thread schedule

Property theorems.  Proofs live in the imported `MVoro.Proofs.*` modules; every theorem below is the
proved statement itself (`type_of%`), its source text is repeated in the doc comment (without the `variable`s and local
notations of the section it stands in).  GENERATED by tools/mkprops.py from tools/props_table.py; edit that.
-/
import MVoro.Proofs.Misc

namespace MVoro.C09

/-- T09.1 slot view: whatever order the n tasks complete in (any permutation) and whatever the slots held before, slot i ends up holding f i

Statement (`MVoro.SchedProofs.runOrder_perm`): `(f : Nat → β) (n : Nat) (order : List Nat) (slots : List (Option β)) (hperm : order.Perm (List.range n)) (hlen : slots.length = n) : runOrder f order slots = (List.range n).map (fun i => some (f i))` -/
theorem any_completion_order : type_of% @MVoro.SchedProofs.runOrder_perm := @MVoro.SchedProofs.runOrder_perm

/-- T09.1 two completion orders give the same vector

Statement (`MVoro.SchedProofs.runOrder_any_two`): `(f : Nat → β) (n : Nat) (o₁ o₂ : List Nat) (s₁ s₂ : List (Option β)) (h₁ : o₁.Perm (List.range n)) (h₂ : o₂.Perm (List.range n)) (l₁ : s₁.length = n) (l₂ : s₂.length = n) : runOrder f o₁ s₁ = runOrder f o₂ s₂` -/
theorem any_two_orders_agree : type_of% @MVoro.SchedProofs.runOrder_any_two := @MVoro.SchedProofs.runOrder_any_two

/-- T09.1 split view: any recursive splitting of the index range, concatenated in order, is the sequential map

Statement (`MVoro.SchedProofs.collect_eq`): `(f : Nat → β) (s : Split) (lo len : Nat) : collect f s lo len = (List.range len).map (fun i => f (lo + i))` -/
theorem any_split_tree : type_of% @MVoro.SchedProofs.collect_eq := @MVoro.SchedProofs.collect_eq

/-- T09.1 two split trees give the same vector

Statement (`MVoro.SchedProofs.collect_any_two`): `(f : Nat → β) (s₁ s₂ : Split) (lo len : Nat) : collect f s₁ lo len = collect f s₂ lo len` -/
theorem any_two_split_trees_agree : type_of% @MVoro.SchedProofs.collect_any_two := @MVoro.SchedProofs.collect_any_two

/-- T09.1 filter_map + flatten after an indexed collect is the sequential filter_map + flatten: faces come out in cell order

Statement (`MVoro.SchedProofs.flattenCollect_eq`): `(f : Nat → Option (List β)) (s : Split) (n : Nat) : flattenCollect f s n = (((List.range n).map f).filterMap id).flatten` -/
theorem flatten_after_collect : type_of% @MVoro.SchedProofs.flattenCollect_eq := @MVoro.SchedProofs.flattenCollect_eq

end MVoro.C09
