/-
C10 — the exact in-sphere predicate returns the true sign on the integer grid.

Property theorems only (helper lemmas live in `MVoro/Proofs`; T10.1 `C10.insphere_power` and `C10.dist2` stand in
`Proofs/InSphereDet`, where `Proofs/StarInvariant` uses them).  All statements are about the hand-written reference
`Ref.inSphereDet`; the translator output `Gen.inSphereDet` (regenerated from src/geometry.rs on every run) is tied to it
by `Obl.gen_inSphereDet_eq` (`Obl/InSphere`).
-/
import MVoro.Proofs.Orientation

namespace MVoro.C10
open MVoro Ref

/-- **T10.5a** three-term Grassmann–Plücker relation between the two determinants the code evaluates. -/
theorem grassmann_pluecker : type_of% @Orientation.grassmann_pluecker := @Orientation.grassmann_pluecker

/-- **T10.5b** the dual triple `(cur, next, p)` of a vertex created by `clip_by_plane` is positively oriented — the
precondition under which the sign of the in-sphere determinant means "inside" — whenever the removed vertex `(a, b, c)`
was positively oriented and strictly clipped, the vertex `(b, a, d)` across the edge was positively oriented and kept, and
the old cell was locally Delaunay at that edge.  For all integers (any ordered commutative ring). -/
theorem new_triple_oriented : type_of% @Orientation.new_triple_oriented := @Orientation.new_triple_oriented

/-- **T10.5c** the vertex created by `clip_by_plane` is again locally Delaunay against the kept vertex across the edge it inherits. -/
theorem new_vertex_delaunay_vs_kept : type_of% @Orientation.new_vertex_delaunay_vs_kept := @Orientation.new_vertex_delaunay_vs_kept

/- T10.5 over a whole construction: `Star.reachable_from_init_good` (re-exported in `Props/C01`, T01.4e) and
`Star.exact_decision_iff` (`Proofs/StarReach`). -/

end MVoro.C10
