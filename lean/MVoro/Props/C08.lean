/-
C08 — 1D and 2D tessellations depend only on the active coordinates

Property theorems.  Proofs live in the imported `MVoro.Proofs.*` modules; every theorem below is the
proved statement itself (`type_of%`), its source text is repeated in the doc comment (without the `variable`s and local
notations of the section it stands in).  GENERATED by tools/mkprops.py from tools/props_table.py; edit that.
-/
import MVoro.Proofs.Periodic
import MVoro.Proofs.VorSet
import MVoro.Proofs.LowDim

namespace MVoro.C08

/-- T08.1 `Generator::new` forgets the unused coordinates

Statement (`MVoro.LowDim.projectGen_indep`): `(dim : Nat) (hd : dim = 1 ∨ dim = 2 ∨ dim = 3) (g g' : Q3) (h : AgreeOn dim g g') : projectGen dim g = projectGen dim g'` -/
theorem generator_projection_indep : type_of% @MVoro.LowDim.projectGen_indep := @MVoro.LowDim.projectGen_indep

/-- T08.1 the axis normalisation forgets the unused components of anchor and width

Statement (`MVoro.LowDim.normalise_indep`): `(dim : Nat) (hd : dim = 1 ∨ dim = 2 ∨ dim = 3) (a a' w w' : Q3) (ha : AgreeOn dim a a') (hw : AgreeOn dim w w') : normalise dim a w = normalise dim a' w'` -/
theorem axis_normalisation_indep : type_of% @MVoro.LowDim.normalise_indep := @MVoro.LowDim.normalise_indep

/-- T08.1 two inputs that agree on the active coordinates are normalised to the same internal problem; every later step is a function of it

Statement (`MVoro.LowDim.norm_indep`): `(t t' : TessIn) (hdim : t.dim = t'.dim) (hd : t.dim = 1 ∨ t.dim = 2 ∨ t.dim = 3) (hper : t.periodic = t'.periodic) (ha : AgreeOn t.dim t.anchor t'.anchor) (hw : AgreeOn t.dim t.width t'.width) (hsz : t.gens.size = t'.gens.size) (hg : ∀ i (h : i < t.gens.size), AgreeOn t.dim t.gens[i] (t'.gens[i]'(hsz ▸ h))) : t.norm = t'.norm` -/
theorem internal_problem_indep_of_unused_coordinates : type_of% @MVoro.LowDim.norm_indep := @MVoro.LowDim.norm_indep

/-- T08.1 1D: unused axes carry the box [-1/2,1/2] and generator coordinate 0

Statement (`MVoro.LowDim.norm_unused_1d`): `(t : TessIn) (h : t.dim = 1) : t.norm.anchor.y = -1/2 ∧ t.norm.anchor.z = -1/2 ∧ t.norm.width.y = 1 ∧ t.norm.width.z = 1 ∧ ∀ g ∈ t.norm.gens, g.y = 0 ∧ g.z = 0` -/
theorem unit_box_on_unused_axes_1d : type_of% @MVoro.LowDim.norm_unused_1d := @MVoro.LowDim.norm_unused_1d

/-- T08.1 2D: same for z

Statement (`MVoro.LowDim.norm_unused_2d`): `(t : TessIn) (h : t.dim = 2) : t.norm.anchor.z = -1/2 ∧ t.norm.width.z = 1 ∧ ∀ g ∈ t.norm.gens, g.z = 0` -/
theorem unit_box_on_unused_axes_2d : type_of% @MVoro.LowDim.norm_unused_2d := @MVoro.LowDim.norm_unused_2d

/-- T08.3 prism: for generators inside a subspace K, membership of x in H(g,q) depends only on the orthogonal projection of x onto K: the 3D cell is base x (unused axes)

Statement (`MVoro.VorSet.HS_proj`): `(K : Submodule ℝ E) [K.HasOrthogonalProjection] {g q : E} (hg : g ∈ K) (hq : q ∈ K) (x : E) : x ∈ HS g q ↔ ((K.orthogonalProjectionOnto x : K) : E) ∈ HS g q` -/
theorem half_space_depends_on_projection : type_of% @MVoro.VorSet.HS_proj := @MVoro.VorSet.HS_proj

/-- T08.2 the 1D cell is the interval between the midpoints to the sorted neighbours (walls at the ends)

Statement (`MVoro.Periodic.cell_1d_eq`): `{n : ℕ} (a w : ℝ) (g : Fin n → ℝ) (hg : StrictMono g) (hbox : ∀ j, a ≤ g j ∧ g j ≤ a + w) (k : Fin n) : {x : ℝ | a ≤ x ∧ x ≤ a + w ∧ ∀ j, |x - g k| ≤ |x - g j|} = Set.Icc (cellLo a g k) (cellHi a w g k)` -/
theorem cell_1d_closed_form : type_of% @MVoro.Periodic.cell_1d_eq := @MVoro.Periodic.cell_1d_eq

/-- T02.3/T08 unit thickness: the measure of the prism is the measure of its base

Statement (`MVoro.Periodic.prism_volume`): `(base_area : ℝ) : base_area * (1 / 2 - (-1 / 2)) = base_area` -/
theorem unit_thickness : type_of% @MVoro.Periodic.prism_volume := @MVoro.Periodic.prism_volume

/-- T08 the centroid of the unit slab is 0 along unused axes

Statement (`MVoro.Periodic.slab_centroid`): `: ((-1 / 2 : ℝ) + 1 / 2) / 2 = 0` -/
theorem slab_centroid : type_of% @MVoro.Periodic.slab_centroid := @MVoro.Periodic.slab_centroid

end MVoro.C08
