/-
C17 — neighbour candidates are enumerated completely and in order of distance

Property theorems.  Proofs live in the imported `MVoro.Proofs.*` modules; every theorem below is the
proved statement itself (`type_of%`), its source text is repeated in the doc comment (without the `variable`s and local
notations of the section it stands in).  GENERATED by tools/mkprops.py from tools/props_table.py; edit that.
-/
import MVoro.Proofs.BestFirst
import MVoro.Proofs.Periodic

namespace MVoro.C17

/-- T17.1a with enough fuel every leaf below the queue is emitted exactly once, with the shift of the entry it came from — for ANY tie-breaking that pops a minimal entry (covers BinaryHeap)

Statement (`MVoro.BestFirst.bestFirst_complete`): `(key : Entry τ → Rat) (choose : List (Entry τ) → Nat) (hv : Valid key choose) (fuel : Nat) (q : List (Entry τ)) (hf : totalFuel q ≤ fuel) : (bestFirst choose fuel q).Perm (q.flatMap (fun e => e.t.leaves.map (fun i => (i, e.tag))))` -/
theorem every_leaf_once_per_initial_entry : type_of% @MVoro.BestFirst.bestFirst_complete := @MVoro.BestFirst.bestFirst_complete

/-- T17.1b the emitted keys are non-decreasing whenever parent keys are lower bounds of their children (LB)

Statement (`MVoro.BestFirst.bestFirst_sorted`): `(key : Entry τ → Rat) (hLB : LB key) (choose : List (Entry τ) → Nat) (hv : Valid key choose) : ∀ (fuel : Nat) (q : List (Entry τ)), List.Pairwise (· ≤ ·) ((bestFirst choose fuel q).map (fun p : Nat × τ => key ⟨.leaf p.1, p.2⟩))` -/
theorem emitted_in_key_order : type_of% @MVoro.BestFirst.bestFirst_sorted := @MVoro.BestFirst.bestFirst_sorted

/-- T17.3 from the initial queue (root children under every shift) the output is a permutation of {generators} x {shifts}

Statement (`MVoro.BestFirst.bestFirst_initQueue`): `(key : Entry τ → Rat) (choose : List (Entry τ) → Nat) (hv : Valid key choose) (root : Tree) (shifts : List τ) (fuel : Nat) (hf : totalFuel (initQueue root shifts) ≤ fuel) : (bestFirst choose fuel (initQueue root shifts)).Perm (shifts.flatMap (fun s => root.leaves.map (fun i => (i, s))))` -/
theorem each_generator_once_per_shift : type_of% @MVoro.BestFirst.bestFirst_initQueue := @MVoro.BestFirst.bestFirst_initQueue

/-- T17.3 hence every generator is visited exactly #shifts times (3^d periodic, 1 otherwise)

Statement (`MVoro.BestFirst.visits_per_generator`): `(key : Entry τ → Rat) (choose : List (Entry τ) → Nat) (hv : Valid key choose) (root : Tree) (shifts : List τ) (fuel : Nat) (hf : totalFuel (initQueue root shifts) ≤ fuel) (i : Nat) : ((bestFirst choose fuel (initQueue root shifts)).map Prod.fst).count i = shifts.length * root.leaves.count i` -/
theorem visit_count : type_of% @MVoro.BestFirst.visits_per_generator := @MVoro.BestFirst.visits_per_generator

/-- T17.3 the unique key-0 pair (the generator itself, zero shift) is emitted first when all other keys are positive (distinct generators)

Statement (`MVoro.BestFirst.self_first`): `(key : Entry τ → Rat) (hLB : LB key) (choose : List (Entry τ) → Nat) (hv : Valid key choose) (fuel : Nat) (q : List (Entry τ)) (hf : totalFuel q ≤ fuel) (i0 : Nat) (s0 : τ) (hmem : (i0, s0) ∈ q.flatMap (fun e => e.t.leaves.map (fun i => (i, e.tag)))) (h0 : key ⟨.leaf i0, s0⟩ = 0) (hpos : ∀ p ∈ q.flatMap (fun e => e.t.leaves.map (fun i => (i, e.tag))), p ≠ (i0, s0) → 0 < key ⟨.leaf p.1, p.2⟩) : (bestFirst choose fuel q).head? = some (i0, s0)` -/
theorem self_first : type_of% @MVoro.BestFirst.self_first := @MVoro.BestFirst.self_first

/-- the executable tie-breaking of the driver (first minimum) is one of the admissible choices

Statement (`MVoro.BestFirst.argminFirst_valid`): `(key : Entry τ → Rat) : Valid key (argminFirst key)` -/
theorem first_min_is_valid_choice : type_of% @MVoro.BestFirst.argminFirst_valid := @MVoro.BestFirst.argminFirst_valid

/-- T17.2 one axis: the clamped coordinate is at least as close as any point of the interval

Statement (`MVoro.BestFirst.clamp_lower_bound`): `{lo hi p : K} (x : K) (h1 : lo ≤ p) (h2 : p ≤ hi) : (min (max x lo) hi - x) ^ 2 ≤ (p - x) ^ 2` -/
theorem clamp_is_closest_point : type_of% @MVoro.BestFirst.clamp_lower_bound := @MVoro.BestFirst.clamp_lower_bound

/-- T17.2 the envelope key is a lower bound of the squared distance to every point inside the envelope

Statement (`MVoro.BestFirst.envDist2_le_dist2`): `{lo hi p : Fin 3 → K} (x : Fin 3 → K) (h1 : ∀ i, lo i ≤ p i) (h2 : ∀ i, p i ≤ hi i) : envDist2 lo hi x ≤ dist2 p x` -/
theorem envelope_distance_lower_bound : type_of% @MVoro.BestFirst.envDist2_le_dist2 := @MVoro.BestFirst.envDist2_le_dist2

/-- T17.2 and of the key of every nested envelope

Statement (`MVoro.BestFirst.envDist2_nested`): `{lo hi lo' hi' : Fin 3 → K} (x : Fin 3 → K) (hlo : ∀ i, lo i ≤ lo' i) (hhi : ∀ i, hi' i ≤ hi i) (hne : ∀ i, lo' i ≤ hi' i) : envDist2 lo hi x ≤ envDist2 lo' hi' x` -/
theorem envelope_distance_nested : type_of% @MVoro.BestFirst.envDist2_nested := @MVoro.BestFirst.envDist2_nested

/-- T17.2 so the key the code uses has the lower-bound property on any tree whose parent envelopes contain their children (rstar invariant, checked on every dumped tree)

Statement (`MVoro.BestFirst.LB_boxKey`): `(lo hi : Tree → Fin 3 → Rat) (pt : τ → Fin 3 → Rat) (hne : ∀ t i, lo t i ≤ hi t i) (hnest : ∀ cs c, c ∈ cs → ∀ i, lo (.node cs) i ≤ lo c i ∧ hi c i ≤ hi (.node cs) i) : LB (boxKey lo hi pt)` -/
theorem envelope_key_has_LB : type_of% @MVoro.BestFirst.LB_boxKey := @MVoro.BestFirst.LB_boxKey

/-- T17.2 for a leaf the key is the squared distance to the shifted query point

Statement (`MVoro.BestFirst.boxKey_leaf`): `(lo hi : Tree → Fin 3 → Rat) (pt : τ → Fin 3 → Rat) (i : Nat) (s : τ) (h : lo (.leaf i) = hi (.leaf i)) : boxKey lo hi pt ⟨.leaf i, s⟩ = dist2 (lo (.leaf i)) (pt s)` -/
theorem leaf_key_is_distance : type_of% @MVoro.BestFirst.boxKey_leaf := @MVoro.BestFirst.boxKey_leaf

/-- T06.4 searching with the query shifted by s looks at the image shifted by -s

Statement (`MVoro.Periodic.shift_equiv_image`): `{d : ℕ} (x w q : Fin d → ℝ) (k : Fin d → ℤ) : dist2 (fun i => x i + k i * w i) q = dist2 x (image q w (fun i => -k i))` -/
theorem query_shift_is_image : type_of% @MVoro.Periodic.shift_equiv_image := @MVoro.Periodic.shift_equiv_image

/-- T06.4/T17.3 the reported shift is absent iff zero and has components in {-w,0,w}

Statement (`MVoro.Periodic.reportedShift_spec`): `(w : Fin 3 → ℝ) (k : Fin 3 → ℤ) (hw : ∀ i, 0 < w i) (hk : ∀ i, k i = -1 ∨ k i = 0 ∨ k i = 1) : (reportedShift (fun i => k i * w i) = none ↔ k = 0) ∧ (k ≠ 0 → reportedShift (fun i => k i * w i) = some (fun i => -(k i * w i))) ∧ (∀ i, -(k i * w i) = -w i ∨ -((k i : ℝ) * w i) = 0 ∨ -(k i * w i) = w i)` -/
theorem reported_shift : type_of% @MVoro.Periodic.reportedShift_spec := @MVoro.Periodic.reportedShift_spec

end MVoro.C17
