/-
C20 — auxiliary structures return exact nearest neighbours and enclosing spheres

Property theorems.  Proofs live in the imported `MVoro.Proofs.*` modules; every theorem below is the
proved statement itself (`type_of%`), its source text is repeated in the doc comment (without the `variable`s and local
notations of the section it stands in).  GENERATED by tools/mkprops.py from tools/props_table.py; edit that.
-/
import MVoro.Proofs.KnnProofs
import MVoro.Proofs.SphereProofs
import MVoro.Proofs.MEBProofs
import MVoro.Proofs.KnnCorrect
import MVoro.Proofs.GridWF
import MVoro.Proofs.RingWF
import MVoro.Proofs.KnnFull

namespace MVoro.C20

/-- T20.1 `min_distance_squared` of a grid cell is a lower bound of the squared distance to every point inside the cell (needs the cell extent loc .. loc+width componentwise)

Statement (`MVoro.KnnProofs.minDist2_lower_bound`): `(c : GCell) (x p : Q3) (hw : 0 ≤ c.width.x ∧ 0 ≤ c.width.y ∧ 0 ≤ c.width.z) (hp : InBox c p) : minDist2 c x ≤ V3.norm2 (p - x)` -/
theorem cell_lower_bound : type_of% @MVoro.KnnProofs.minDist2_lower_bound := @MVoro.KnnProofs.minDist2_lower_bound

/-- T20.1 `closest_loc` lies in the cell

Statement (`MVoro.KnnProofs.closestLoc_inBox`): `(c : GCell) (x : Q3) (hw : 0 ≤ c.width.x ∧ 0 ≤ c.width.y ∧ 0 ≤ c.width.z) : InBox c (closestLoc c x) ∧ minDist2 c x = V3.norm2 (closestLoc c x - x)` -/
theorem closest_loc_in_cell : type_of% @MVoro.KnnProofs.closestLoc_inBox := @MVoro.KnnProofs.closestLoc_inBox

/-- T20.1 one insertion into the bounded heap keeps "the k smallest distances seen so far, ascending"

Statement (`MVoro.KnnProofs.insertK_spec`): `(k : ℕ) (hk : 0 < k) (h : List (ℚ × ℕ)) (e : ℚ × ℕ) (hs : Sorted h) (hl : h.length ≤ k) : Sorted (insertK k h e) ∧ (insertK k h e).length = min k (h.length + 1) ∧ dists (insertK k h e) = smallest k (dists (h ++ [e]))` -/
theorem bounded_heap_insert : type_of% @MVoro.KnnProofs.insertK_spec := @MVoro.KnnProofs.insertK_spec

/-- T20.1 scanning any list of particles leaves the k smallest distances of everything scanned

Statement (`MVoro.KnnProofs.foldl_insertK_spec`): `(k : ℕ) (hk : 0 < k) (es : List (ℚ × ℕ)) : ∀ (h : List (ℚ × ℕ)), Sorted h → h.length ≤ k → Sorted (es.foldl (insertK k) h) ∧ (es.foldl (insertK k) h).length = min k (h.length + es.length) ∧ dists (es.foldl (insertK k) h) = smallest k (dists (h ++ es))` -/
theorem bounded_heap_fold : type_of% @MVoro.KnnProofs.foldl_insertK_spec := @MVoro.KnnProofs.foldl_insertK_spec

/-- T20.1 a cell whose lower bound exceeds the current k-th distance cannot change the heap

Statement (`MVoro.KnnProofs.skip_safe`): `(k : ℕ) (h : List (ℚ × ℕ)) (m : ℚ × ℕ) (hlen : h.length = k) (hm : h.getLast? = some m) (es : List (ℚ × ℕ)) (hes : ∀ e ∈ es, m.1 < e.1) : es.foldl (insertK k) h = h` -/
theorem skip_is_safe : type_of% @MVoro.KnnProofs.skip_safe := @MVoro.KnnProofs.skip_safe

/-- T20.1 hence scanning with the skip test gives the same heap as scanning every particle of the cell

Statement (`MVoro.KnnProofs.scanCell_eq_noskip`): `(s : Space) (k pid : ℕ) (h : List (ℚ × ℕ)) (c : GCell) (hw : 0 ≤ c.width.x ∧ 0 ≤ c.width.y ∧ 0 ≤ c.width.z) (hbox : ∀ q ∈ c.parts, InBox c s.pos[q]!) : scanCell s k pid h c = c.parts.foldl (fun h q => if q == pid then h else insertK k h (V3.norm2 (s.pos[pid]! - s.pos[q]!), q)) h` -/
theorem scan_with_skip_eq_without : type_of% @MVoro.KnnProofs.scanCell_eq_noskip := @MVoro.KnnProofs.scanCell_eq_noskip

/-- T20.1 every particle in a cell at ring distance > r is farther than dist_to_face + r * min width: the termination test is safe

Statement (`MVoro.KnnProofs.ring_bound_3d`): `(lo w x p : Q3) (δ minw : ℚ) (i1 i2 i3 j1 j2 j3 : ℤ) (r : ℕ) (hwx : 0 < w.x) (hwy : 0 < w.y) (hwz : 0 < w.z) (hδ : 0 ≤ δ) (hmw : 0 ≤ minw) (hmx : minw ≤ w.x) (hmy : minw ≤ w.y) (hmz : minw ≤ w.z) (hx1 : δ ≤ x.x - (lo.x + i1 * w.x)) (hx2 : δ ≤ lo.x + (i1 + 1) * w.x - x.x) (hy1 : δ ≤ x.y - (lo.y + i2 * w.y)) (hy2 : δ ≤ lo.y + (i2 + 1) * w.y - x.y) (hz1 : δ ≤ x.z - (lo.z + i3 * w.z)) (hz2 : δ ≤ lo.z + (i3 + 1) * w.z - x.z) (hpx : lo.x + j1 * w.x ≤ p.x ∧ p.x ≤ lo.x + (j1 + 1) * w.x) (hpy : lo.y + j2 * w.y ≤ p.y ∧ p.y ≤ lo.y + (j2 + 1) * w.y) (hpz : lo.z + j3 * w.z ≤ p.z ∧ p.z ≤ lo.z + (j3 + 1) * w.z) (hr : (r : ℤ) + 1 ≤ |j1 - i1| ∨ (r : ℤ) + 1 ≤ |j2 - i2| ∨ (r : ℤ) + 1 ≤ |j3 - i3|) : (δ + r * minw) ^ 2 ≤ V3.norm2 (p - x)` -/
theorem ring_termination_bound : type_of% @MVoro.KnnProofs.ring_bound_3d := @MVoro.KnnProofs.ring_bound_3d

/-- T20.1 whatever the early exits do (skipped cells, termination test), the ring loop returns the plain fold of the bounded heap over ALL particles of ALL rings — for every grid whose cells contain their particles (hbox), whose rings end (hend) and whose rings are at least `dist_to_face + r * min width` away (hfar)

Statement (`MVoro.KnnCorrect.knnLoop_eq_fold`): `(hk : 0 < k) (d2f : ℚ) (R : ℕ) (hbox : ∀ r, ∀ c ∈ ring s cid r, (0 ≤ s.cells[c]!.width.x ∧ 0 ≤ s.cells[c]!.width.y ∧ 0 ≤ s.cells[c]!.width.z) ∧ ∀ q ∈ s.cells[c]!.parts, InBox s.cells[c]! s.pos[q]!) (hend : ∀ r, R ≤ r → ring s cid r = []) (hfar : ∀ r r', r < r' → ∀ e ∈ entries s pid (ring s cid r'), (d2f + r * min (min s.cwidth.x s.cwidth.y) s.cwidth.z) * (d2f + r * min (min s.cwidth.x s.cwidth.y) s.cwidth.z) ≤ e.1) : ∀ (fuel r : ℕ), R ≤ r + fuel → knnLoop s k pid cid d2f fuel r ((ringEntries s pid cid 0 r).foldl (insertK k) []) = (ringEntries s pid cid 0 (max R r)).foldl (insertK k) []` -/
theorem ring_loop_returns_fold_over_all_rings : type_of% @MVoro.KnnCorrect.knnLoop_eq_fold := @MVoro.KnnCorrect.knnLoop_eq_fold

/-- T20.1 hence the result is sorted by distance, has min(k, number of candidates) entries, its distances are the k smallest, and every entry is a real candidate

Statement (`MVoro.KnnCorrect.knnLoop_correct`): `(hk : 0 < k) (d2f : ℚ) (R fuel : ℕ) (hfuel : R ≤ fuel) (hbox : ∀ r, ∀ c ∈ ring s cid r, (0 ≤ s.cells[c]!.width.x ∧ 0 ≤ s.cells[c]!.width.y ∧ 0 ≤ s.cells[c]!.width.z) ∧ ∀ q ∈ s.cells[c]!.parts, InBox s.cells[c]! s.pos[q]!) (hend : ∀ r, R ≤ r → ring s cid r = []) (hfar : ∀ r r', r < r' → ∀ e ∈ entries s pid (ring s cid r'), (d2f + r * min (min s.cwidth.x s.cwidth.y) s.cwidth.z) * (d2f + r * min (min s.cwidth.x s.cwidth.y) s.cwidth.z) ≤ e.1) : let res := knnLoop s k pid cid d2f fuel 0 [] let all := ringEntries s pid cid 0 R Sorted res ∧ res.length = min k all.length ∧ dists res = smallest k (dists all) ∧ (∀ a ∈ res, a ∈ all)` -/
theorem ring_loop_correct : type_of% @MVoro.KnnCorrect.knnLoop_correct := @MVoro.KnnCorrect.knnLoop_correct

/-- T20.1 if moreover the cells of the rings hold every particle exactly once, the distances returned are those of the brute-force specification `knnSpec` (k nearest OTHER particles, increasing)

Statement (`MVoro.KnnCorrect.knnLoop_eq_spec`): `(hk : 0 < k) (d2f : ℚ) (R fuel : ℕ) (hfuel : R ≤ fuel) (hbox : ∀ r, ∀ c ∈ ring s cid r, (0 ≤ s.cells[c]!.width.x ∧ 0 ≤ s.cells[c]!.width.y ∧ 0 ≤ s.cells[c]!.width.z) ∧ ∀ q ∈ s.cells[c]!.parts, InBox s.cells[c]! s.pos[q]!) (hend : ∀ r, R ≤ r → ring s cid r = []) (hfar : ∀ r r', r < r' → ∀ e ∈ entries s pid (ring s cid r'), (d2f + r * min (min s.cwidth.x s.cwidth.y) s.cwidth.z) * (d2f + r * min (min s.cwidth.x s.cwidth.y) s.cwidth.z) ≤ e.1) (hpart : ((List.range R).flatMap fun r => (ring s cid r).flatMap fun c => s.cells[c]!.parts) ~ List.range s.pos.size) : dists (knnLoop s k pid cid d2f fuel 0 []) = ((((List.range s.pos.size).filter (· != pid)).map fun q => V3.norm2 (s.pos[pid]! - s.pos[q]!)).mergeSort (· ≤ ·)).take k` -/
theorem ring_loop_eq_brute_force : type_of% @MVoro.KnnCorrect.knnLoop_eq_spec := @MVoro.KnnCorrect.knnLoop_eq_spec

/-- T20.1 Space::new (componentwise placement): for a box of positive extents, a positive maximal cell width and particles inside the half-open box the grid certificate holds: non-negative cell widths, every particle registered in a cell lies in the box of that cell (binning by floor brackets the coordinate), the cells hold every particle exactly once (row-major index arithmetic)

Statement (`MVoro.GridWF.mkSpace_gridOK`): `(anchor width : Q3) (mcw : Rat) (pos : Array Q3) (hw : 0 < width.x ∧ 0 < width.y ∧ 0 < width.z) (hm : 0 < mcw) (hin : ∀ q, q < pos.size → (anchor.x ≤ pos[q]!.x ∧ pos[q]!.x < anchor.x + width.x) ∧ (anchor.y ≤ pos[q]!.y ∧ pos[q]!.y < anchor.y + width.y) ∧ (anchor.z ≤ pos[q]!.z ∧ pos[q]!.z < anchor.z + width.z)) : gridOK (mkSpace true anchor width mcw pos) = true` -/
theorem space_new_builds_a_wellformed_grid : type_of% @MVoro.GridWF.mkSpace_gridOK := @MVoro.GridWF.mkSpace_gridOK

/-- T20.1 hence hbox and the partition property assumed by knnLoop_eq_spec hold for the grid of Space::new

Statement (`MVoro.GridWF.mkSpace_wellformed`): `(anchor width : Q3) (mcw : Rat) (pos : Array Q3) (hw : 0 < width.x ∧ 0 < width.y ∧ 0 < width.z) (hm : 0 < mcw) (hin : ∀ q, q < pos.size → (anchor.x ≤ pos[q]!.x ∧ pos[q]!.x < anchor.x + width.x) ∧ (anchor.y ≤ pos[q]!.y ∧ pos[q]!.y < anchor.y + width.y) ∧ (anchor.z ≤ pos[q]!.z ∧ pos[q]!.z < anchor.z + width.z)) : let s := mkSpace true anchor width mcw pos (∀ c ∈ s.cells.toList, (0 ≤ c.width.x ∧ 0 ≤ c.width.y ∧ 0 ≤ c.width.z) ∧ ∀ q ∈ c.parts, InBox c s.pos[q]!) ∧ (s.cells.toList.flatMap (·.parts)) ~ List.range s.pos.size` -/
theorem space_new_meets_the_hypotheses_of_the_ring_loop : type_of% @MVoro.GridWF.mkSpace_wellformed := @MVoro.GridWF.mkSpace_wellformed

/-- T20.1 get_r_ring(cid, r) lists exactly the cells of the grid whose index triple is at Chebyshev distance r from that of cid (r = 0: the cell itself)

Statement (`MVoro.RingWF.mem_ring`): `(s : Space) (hs : s.cdim = (cx, cy, cz)) (hy : 0 < cy) (hz : 0 < cz) (cid r c : Nat) (hcid : cid < cx * cy * cz) : c ∈ ring s cid r ↔ c < cx * cy * cz ∧ cheb cy cz c cid = r` -/
theorem get_r_ring_is_the_chebyshev_ring : type_of% @MVoro.RingWF.mem_ring := @MVoro.RingWF.mem_ring

/-- T20.1 ... each once

Statement (`MVoro.RingWF.nodup_ring`): `(s : Space) (hs : s.cdim = (cx, cy, cz)) (cid r : Nat) : (ring s cid r).Nodup` -/
theorem get_r_ring_lists_each_cell_once : type_of% @MVoro.RingWF.nodup_ring := @MVoro.RingWF.nodup_ring

/-- T20.1 from ring cx + cy + cz on the rings are empty (hypothesis hend of the ring loop; the loop has fuel cx + cy + cz + 2)

Statement (`MVoro.RingWF.ring_empty`): `(s : Space) (hs : s.cdim = (cx, cy, cz)) (hy : 0 < cy) (hz : 0 < cz) (cid r : Nat) (hcid : cid < cx * cy * cz) (hr : cx + cy + cz ≤ r) : ring s cid r = []` -/
theorem rings_end : type_of% @MVoro.RingWF.ring_empty := @MVoro.RingWF.ring_empty

/-- T20.1 a particle registered in a cell at Chebyshev index distance >= r + 1 is at least dist_to_face + r * min width away (hypothesis hfar: ring_bound_3d composed over the ring structure and the binning)

Statement (`MVoro.KnnFull.far_bound`): `(pid : Nat) (hp : pid < pos.size) (c : Nat) (hc : c < CX * CY * CZ) (q : Nat) (hq : q ∈ (cellAt anchor width mcw pos c).parts) (r : Nat) (hr : r + 1 ≤ cheb CY CZ c (idxOf anchor width mcw pos pid)) : (minDistToFace (cellAt anchor width mcw pos (idxOf anchor width mcw pos pid)) pos[pid]! + r * min (min (width.x / CX) (width.y / CY)) (width.z / CZ)) * (minDistToFace (cellAt anchor width mcw pos (idxOf anchor width mcw pos pid)) pos[pid]! + r * min (min (width.x / CX) (width.y / CY)) (width.z / CZ)) ≤ V3.norm2 (pos[pid]! - pos[q]!)` -/
theorem farther_rings_are_farther : type_of% @MVoro.KnnFull.far_bound := @MVoro.KnnFull.far_bound

/-- T20.1 the cells of the rings around any cell hold every particle exactly once (hypothesis hpart)

Statement (`MVoro.KnnFull.rings_perm`): `(cid : Nat) (hcid : cid < CX * CY * CZ) : ((List.range (CX + CY + CZ)).flatMap fun r => (ring (mkSpace true anchor width mcw pos) cid r).flatMap fun c => (mkSpace true anchor width mcw pos).cells[c]!.parts) ~ List.range pos.size` -/
theorem rings_partition_the_particles : type_of% @MVoro.KnnFull.rings_perm := @MVoro.KnnFull.rings_perm

/-- T20.1 every returned pair is (squared distance to particle q, q) for another particle q < n, the list is sorted by distance and has min(k, n - 1) entries

Statement (`MVoro.KnnFull.knnLoop_mkSpace_entries`): `(k : Nat) (hk : 0 < k) (pid : Nat) (hp : pid < pos.size) : let s := mkSpace true anchor width mcw pos let res := knnLoop s k pid (cellOf s pid) (minDistToFace s.cells[cellOf s pid]! s.pos[pid]!) (CX + CY + CZ + 2) 0 [] Sorted res ∧ res.length = min k (pos.size - 1) ∧ ∀ e ∈ res, e.2 < pos.size ∧ e.2 ≠ pid ∧ e.1 = V3.norm2 (pos[pid]! - pos[e.2]!)` -/
theorem knn_entries_on_the_grid_of_space_new : type_of% @MVoro.KnnFull.knnLoop_mkSpace_entries := @MVoro.KnnFull.knnLoop_mkSpace_entries

/-- T20.1 at full strength for the model: knn on the grid that Space::new builds equals knnSpec (the k nearest OTHER particles in increasing distance) for every k >= 1, every box of positive extents, every positive maximal cell width and all particles inside the half-open box

Statement (`MVoro.KnnFull.knn_mkSpace_eq_spec`): `(k : Nat) (hk : 0 < k) : (knn (mkSpace true anchor width mcw pos) k).map dists = knnSpec pos k` -/
theorem knn_on_the_grid_of_space_new_is_brute_force : type_of% @MVoro.KnnFull.knn_mkSpace_eq_spec := @MVoro.KnnFull.knn_mkSpace_eq_spec

/-- T20.1 (negative) with `c_width.x` on all axes (the pinned tree) a particle lies outside the extent of its cell and the lower bound fails

Statement (`MVoro.KnnProofs.pinned_lower_bound_fails`): `: spF.cwidth = ⟨1, 2, 1⟩ ∧ spF.cells[1]!.loc = ⟨0, 1, 0⟩ ∧ spF.cells[1]!.parts = [1] ∧ ¬ InBox spF.cells[1]! posW[1]! ∧ minDist2 spF.cells[1]! posW[0]! = 121 / 100 ∧ V3.norm2 (posW[1]! - posW[0]!) = 1 / 25 ∧ V3.norm2 (posW[1]! - posW[0]!) < minDist2 spF.cells[1]! posW[0]!` -/
theorem pinned_placement_breaks_lower_bound : type_of% @MVoro.KnnProofs.pinned_lower_bound_fails := @MVoro.KnnProofs.pinned_lower_bound_fails

/-- T20.1 (negative) concrete non-cubic box on which the pinned placement returns a wrong nearest neighbour; the componentwise placement returns the right one

Statement (`MVoro.KnnProofs.pinned_knn_ne_spec`): `: (knn spF 1).map (fun h => h.map (·.1)) ≠ knnSpec posW 1 ∧ (knn spT 1).map (fun h => h.map (·.1)) = knnSpec posW 1` -/
theorem pinned_placement_wrong_answer : type_of% @MVoro.KnnProofs.pinned_knn_ne_spec := @MVoro.KnnProofs.pinned_knn_ne_spec

/-- T20.3 a ball containing all points whose centre is a convex combination of points on its boundary is the minimal enclosing ball

Statement (`MVoro.SphereProofs.minimal_of_certificate_V3`): `{ι : Type*} (s : Finset ι) (p : ι → V3 ℝ) (lam : ι → ℝ) (c : V3 ℝ) (r : ℝ) (hr0 : 0 ≤ r) (hlam : ∀ i ∈ s, 0 ≤ lam i) (hsum : ∑ i ∈ s, lam i = 1) (hcx : ∑ i ∈ s, lam i * (p i).x = c.x) (hcy : ∑ i ∈ s, lam i * (p i).y = c.y) (hcz : ∑ i ∈ s, lam i * (p i).z = c.z) (hr : ∀ i ∈ s, V3.distance2 (p i) c = r ^ 2) (c' : V3 ℝ) (r' : ℝ) (hr' : 0 ≤ r') (hcont : ∀ i ∈ s, V3.distance (p i) c' ≤ r') : r ≤ r'` -/
theorem certificate_implies_minimal : type_of% @MVoro.SphereProofs.minimal_of_certificate_V3 := @MVoro.SphereProofs.minimal_of_certificate_V3

/-- T20.3 (executable form, over Q) a ball accepted by `MEB.checkCert` contains every point and no enclosing ball has a smaller squared radius: what the driver reports as the exact minimum IS the minimum

Statement (`MVoro.MEBProofs.checkCert_sound`): `(pts : Array Q3) (c : Q3) (r2 : Rat) (supp : List (Nat × Rat)) (h : checkCert pts c r2 supp = true) : (∀ i (hi : i < pts.size), V3.norm2 (pts[i] - c) ≤ r2) ∧ ∀ (c' : Q3) (R2 : Rat), (∀ i (hi : i < pts.size), V3.norm2 (pts[i] - c') ≤ R2) → r2 ≤ R2` -/
theorem certificate_checker_sound : type_of% @MVoro.MEBProofs.checkCert_sound := @MVoro.MEBProofs.checkCert_sound

/-- T20.3 `from_two_points` is the minimal sphere containing both

Statement (`MVoro.SphereProofs.sphere2_minimal`): `(a b c' : V3 ℝ) (R : ℝ) (ha : V3.distance a c' ≤ R) (hb : V3.distance b c' ≤ R) : (Ref.sphere2 a b).radius ≤ R` -/
theorem two_point_sphere_minimal : type_of% @MVoro.SphereProofs.sphere2_minimal := @MVoro.SphereProofs.sphere2_minimal

/-- T20.2 `extend` keeps every previously contained point

Statement (`MVoro.SphereProofs.extend_keeps_contained`): `(s : Sphere ℝ) (x y : V3 ℝ) (hy : Ref.contains s y = true) : Ref.contains (Ref.extend s x) y = true` -/
theorem extend_keeps_points : type_of% @MVoro.SphereProofs.extend_keeps_contained := @MVoro.SphereProofs.extend_keeps_contained

/-- T20.2 and contains the new one

Statement (`MVoro.SphereProofs.extend_contains_new`): `(s : Sphere ℝ) (x : V3 ℝ) (hr : 0 < s.radius) : Ref.contains (Ref.extend s x) x = true` -/
theorem extend_contains_new_point : type_of% @MVoro.SphereProofs.extend_contains_new := @MVoro.SphereProofs.extend_contains_new

/-- T20.2 the extension loop over all points ends with a sphere containing all of them

Statement (`MVoro.SphereProofs.fold_extend_contains_all`): `(ps : List (V3 ℝ)) : ∀ (s : Sphere ℝ), 0 < s.radius → 0 < (ps.foldl Ref.extend s).radius ∧ (∀ y, Ref.contains s y = true → Ref.contains (ps.foldl Ref.extend s) y = true) ∧ (∀ x ∈ ps, Ref.contains (ps.foldl Ref.extend s) x = true)` -/
theorem extension_loop_contains_all : type_of% @MVoro.SphereProofs.fold_extend_contains_all := @MVoro.SphereProofs.fold_extend_contains_all

/-- T20.2 EPOS-6: whatever the initial guess (positive radius), the result contains every point

Statement (`MVoro.SphereProofs.epos6_contains_all`): `(ps : List (V3 ℝ)) (s0 : Sphere ℝ) (hr : 0 < s0.radius) : ∀ x ∈ ps, Ref.contains (ps.foldl Ref.extend s0) x = true` -/
theorem epos6_contains_all : type_of% @MVoro.SphereProofs.epos6_contains_all := @MVoro.SphereProofs.epos6_contains_all

/-- T20.2 one extension step of the sphere-of-spheres loop contains the old bounding sphere and the new sphere

Statement (`MVoro.SphereProofs.sphere_of_spheres_step`): `(c cs : E) (R rs : ℝ) (hd : 0 < ‖cs - c‖) (hδ : 0 < (‖cs - c‖ - R + rs) / 2) (hbig : rs ≤ R + ‖cs - c‖) : let dist := ‖cs - c‖ let δ := (dist - R + rs) / 2 let c' := c - (δ / dist) • (c - cs) ‖c' - c‖ + R ≤ R + δ ∧ ‖c' - cs‖ + rs ≤ R + δ` -/
theorem sphere_of_spheres_step : type_of% @MVoro.SphereProofs.sphere_of_spheres_step := @MVoro.SphereProofs.sphere_of_spheres_step

end MVoro.C20
