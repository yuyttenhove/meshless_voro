/-
C07 — partial construction equals the full tessellation restricted to the mask

Property theorems.  Proofs live in the imported `MVoro.Proofs.*` modules; every theorem below is the
proved statement itself (`type_of%`), its source text is repeated in the doc comment (without the `variable`s and local
notations of the section it stands in).  GENERATED by tools/mkprops.py from tools/props_table.py; edit that.
-/
import MVoro.Proofs.TessBook

namespace MVoro.C07

/-- T07.1/T07.3 the cell of a selected index is the same `cellOf i` whatever the mask; unselected cells are the default record

Statement (`MVoro.TessBook.cell_indep_of_mask`): `(u : Nat → Nat) (n : Nat) (cellOf : Nat → CellInfo) (mask : Option (List Bool)) (i : Nat) (hi : i < n) : ∃ vc, (build u n cellOf mask).cells[i]? = some vc ∧ (isActive mask i = true → vc.idx = (cellOf i).idx ∧ vc.constructed = true) ∧ (isActive mask i = false → vc.idx = u i ∧ vc.constructed = false)` -/
theorem cell_indep_of_mask : type_of% @MVoro.TessBook.cell_indep_of_mask := @MVoro.TessBook.cell_indep_of_mask

/-- T07.2 no stored face has an unselected left cell

Statement (`MVoro.TessBook.no_inactive_left`): `(u : Nat → Nat) (n : Nat) (cellOf : Nat → CellInfo) (mask : Option (List Bool)) (hidx : ∀ i, i < n → (cellOf i).idx = i) : ∀ f ∈ (build u n cellOf mask).faces, isActive mask f.left = true ∧ f.left < n` -/
theorem no_unselected_left : type_of% @MVoro.TessBook.no_inactive_left := @MVoro.TessBook.no_inactive_left

/-- T07.2 the faces with left = i are exactly the faces cell i decides to store, none for unselected cells

Statement (`MVoro.TessBook.faces_of_active`): `(u : Nat → Nat) (n : Nat) (cellOf : Nat → CellInfo) (mask : Option (List Bool)) (hidx : ∀ i, i < n → (cellOf i).idx = i) (i : Nat) (hi : i < n) : (build u n cellOf mask).faces.filter (fun f => f.left == i) = if isActive mask i then cellFaces mask (cellOf i) else []` -/
theorem faces_of_selected : type_of% @MVoro.TessBook.faces_of_active := @MVoro.TessBook.faces_of_active

/-- T07.2 a face towards an unselected neighbour is always stored by the selected side

Statement (`MVoro.TessBook.storage_active_inactive`): `(m : List Bool) (i j : Nat) (hj : j < m.length) (mj : m[j] = false) : shouldConstruct i (some m) ⟨some j, false, true, true⟩ = true` -/
theorem selected_vs_unselected_face : type_of% @MVoro.TessBook.storage_active_inactive := @MVoro.TessBook.storage_active_inactive

/-- T07.2/T03.2 between two selected cells exactly one side stores the unshifted face

Statement (`MVoro.TessBook.storage_exactly_one`): `(m : List Bool) (i j : Nat) (hij : i ≠ j) (hi : i < m.length) (hj : j < m.length) (mi : m[i] = true) (mj : m[j] = true) : (shouldConstruct i (some m) ⟨some j, false, true, true⟩ ^^ shouldConstruct j (some m) ⟨some i, false, true, true⟩) = true` -/
theorem both_selected_once : type_of% @MVoro.TessBook.storage_exactly_one := @MVoro.TessBook.storage_exactly_one

end MVoro.C07
