/-
C03 — faces are reciprocal: both sides see the same face, stored once

Property theorems.  Proofs live in the imported `MVoro.Proofs.*` modules; every theorem below is the
proved statement itself (`type_of%`), its source text is repeated in the doc comment (without the `variable`s and local
notations of the section it stands in).  GENERATED by tools/mkprops.py from tools/props_table.py; edit that.
-/
import MVoro.Proofs.TessBook
import MVoro.Proofs.VorSet

namespace MVoro.C03

/-- T03.2 full build: exactly one of the two cells stores an unshifted interior face

Statement (`MVoro.TessBook.storage_exactly_one_no_mask`): `(i j : Nat) (hij : i ≠ j) : (shouldConstruct i none ⟨some j, false, true, true⟩ ^^ shouldConstruct j none ⟨some i, false, true, true⟩) = true` -/
theorem stored_once_no_mask : type_of% @MVoro.TessBook.storage_exactly_one_no_mask := @MVoro.TessBook.storage_exactly_one_no_mask

/-- T03.2 partial build, both selected: exactly one stores it

Statement (`MVoro.TessBook.storage_exactly_one`): `(m : List Bool) (i j : Nat) (hij : i ≠ j) (hi : i < m.length) (hj : j < m.length) (mi : m[i] = true) (mj : m[j] = true) : (shouldConstruct i (some m) ⟨some j, false, true, true⟩ ^^ shouldConstruct j (some m) ⟨some i, false, true, true⟩) = true` -/
theorem stored_once_masked : type_of% @MVoro.TessBook.storage_exactly_one := @MVoro.TessBook.storage_exactly_one

/-- T03.2 it is the lower index that stores it

Statement (`MVoro.TessBook.storage_no_mask`): `(i j : Nat) : shouldConstruct i none ⟨some j, false, true, true⟩ = true ↔ i < j` -/
theorem stored_by_lower_index : type_of% @MVoro.TessBook.storage_no_mask := @MVoro.TessBook.storage_no_mask

/-- T03.2 periodic (shifted) and wall faces are stored from each constructed side

Statement (`MVoro.TessBook.storage_shifted_or_wall`): `(i : Nat) (mask : Option (List Bool)) (p : PlaneInfo) (hv : p.valid = true) (h : p.shifted = true ∨ p.right = none) : shouldConstruct i mask p = true` -/
theorem shifted_and_wall_always_stored : type_of% @MVoro.TessBook.storage_shifted_or_wall := @MVoro.TessBook.storage_shifted_or_wall

/-- T03.2 a stored unshifted face is listed by both of its cells

Statement (`MVoro.TessBook.faceIndices_mem'`): `(cells : List (Nat × Bool)) (faces : List Face) (c : Nat) (h : c < (finalize cells faces).cells.length) (i : Nat) (f : Face) (hf : faces[i]? = some f) : i ∈ faceIndices (finalize cells faces) (finalize cells faces).cells[c] ↔ c = f.left ∨ (f.shifted = false ∧ f.right = some c)` -/
theorem listed_by_both : type_of% @MVoro.TessBook.faceIndices_mem' := @MVoro.TessBook.faceIndices_mem'

/-- T03.3 an antisymmetric flux summed over all cells leaves only wall and periodic faces

Statement (`MVoro.TessBook.flux_cancels`): `(φ : Face → Int) (n : Nat) (faces : List Face) (h : WF n faces) : ((List.range n).map (netFlux φ faces)).sum = ((faces.filter fun f => f.shifted || f.right.isNone).map φ).sum` -/
theorem antisymmetric_flux_cancels : type_of% @MVoro.TessBook.flux_cancels := @MVoro.TessBook.flux_cancels

end MVoro.C03
