/-
C12 — cell-face connectivity is a consistent index structure

Property theorems.  Proofs live in the imported `MVoro.Proofs.*` modules; every theorem below is the
proved statement itself (`type_of%`), its source text is repeated in the doc comment (without the `variable`s and local
notations of the section it stands in).  GENERATED by tools/mkprops.py from tools/props_table.py; edit that.
-/
import MVoro.Proofs.TessBook

namespace MVoro.C12

/-- T12.1 the per-cell lists built by the `finalize` loop are, for every cell, the ascending list of face indices linked to it (with multiplicity)

Statement (`MVoro.TessBook.connLists_eq`): `(n : Nat) (faces : List Face) : connLists n faces = (List.range n).map (sliceSpec faces)` -/
theorem conn_is_concatenation : type_of% @MVoro.TessBook.connLists_eq := @MVoro.TessBook.connLists_eq

/-- T12.1(a) the length of the connectivity array is the total number of links

Statement (`MVoro.TessBook.conn_length`): `(cells : List (Nat × Bool)) (faces : List Face) (h : WF cells.length faces) : (finalize cells faces).conn.length = (faces.map fun f => (links f).length).sum` -/
theorem conn_total_length : type_of% @MVoro.TessBook.conn_length := @MVoro.TessBook.conn_length

/-- T12.1(b) offsets are the prefix sums of the face counts; the counts sum to the array length; idx/constructed are carried through

Statement (`MVoro.TessBook.offsets_prefix`): `(cells : List (Nat × Bool)) (faces : List Face) : let v := finalize cells faces v.cells.length = cells.length ∧ (∀ c (h : c < v.cells.length) (hc : c < cells.length), v.cells[c].idx = cells[c].1 ∧ v.cells[c].constructed = cells[c].2 ∧ v.cells[c].offset = ((v.cells.take c).map (·.count)).sum ∧ v.cells[c].offset + v.cells[c].count ≤ v.conn.length) ∧ (v.cells.map (·.count)).sum = v.conn.length` -/
theorem offsets_are_prefix_sums : type_of% @MVoro.TessBook.offsets_prefix := @MVoro.TessBook.offsets_prefix

/-- T12.1(b) last offset + count = array length

Statement (`MVoro.TessBook.last_offset_count`): `(cells : List (Nat × Bool)) (faces : List Face) (c : Nat) (h : c < (finalize cells faces).cells.length) (hlast : c + 1 = cells.length) : (finalize cells faces).cells[c].offset + (finalize cells faces).cells[c].count = (finalize cells faces).conn.length` -/
theorem last_offset_plus_count : type_of% @MVoro.TessBook.last_offset_count := @MVoro.TessBook.last_offset_count

/-- T12.1(c) `face_indices` of cell c is exactly its slice specification

Statement (`MVoro.TessBook.faceIndices_spec`): `(cells : List (Nat × Bool)) (faces : List Face) (c : Nat) (h : c < (finalize cells faces).cells.length) : faceIndices (finalize cells faces) (finalize cells faces).cells[c] = sliceSpec faces c` -/
theorem face_indices_are_slices : type_of% @MVoro.TessBook.faceIndices_spec := @MVoro.TessBook.faceIndices_spec

/-- T12.1(c) a face is listed by its left cell, by its right cell iff it has a right generator and no shift, and by no other cell

Statement (`MVoro.TessBook.faceIndices_mem'`): `(cells : List (Nat × Bool)) (faces : List Face) (c : Nat) (h : c < (finalize cells faces).cells.length) (i : Nat) (f : Face) (hf : faces[i]? = some f) : i ∈ faceIndices (finalize cells faces) (finalize cells faces).cells[c] ↔ c = f.left ∨ (f.shifted = false ∧ f.right = some c)` -/
theorem face_listed_by_left_and_linked_right_only : type_of% @MVoro.TessBook.faceIndices_mem' := @MVoro.TessBook.faceIndices_mem'

/-- T12.2 for a cell whose stored idx equals its position, `neighbour_ids` yields the other side of each listed non-wall, non-periodic face

Statement (`MVoro.TessBook.neighbourIds_spec`): `(cells : List (Nat × Bool)) (faces : List Face) (c : Nat) (h : c < (finalize cells faces).cells.length) (hidx : (finalize cells faces).cells[c].idx = c) : neighbourIds (finalize cells faces) (finalize cells faces).cells[c] = (faceIndices (finalize cells faces) (finalize cells faces).cells[c]).filterMap (nbrOf faces c)` -/
theorem neighbour_ids_spec : type_of% @MVoro.TessBook.neighbourIds_spec := @MVoro.TessBook.neighbourIds_spec

/-- T12.2 under no-self-faces and one-face-per-pair: never the cell itself, no duplicates, exactly the generators across its unshifted interior faces

Statement (`MVoro.TessBook.neighbourIds_props`): `(cells : List (Nat × Bool)) (faces : List Face) (c : Nat) (h : c < (finalize cells faces).cells.length) (hidx : (finalize cells faces).cells[c].idx = c) (h1 : NoSelf faces) (h2 : PairUnique faces) : let N := neighbourIds (finalize cells faces) (finalize cells faces).cells[c] c ∉ N ∧ N.Nodup ∧ ∀ x, x ∈ N ↔ ∃ f ∈ faces, f.shifted = false ∧ ((f.left = c ∧ f.right = some x) ∨ (f.left = x ∧ f.right = some c))` -/
theorem neighbour_ids_correct : type_of% @MVoro.TessBook.neighbourIds_props := @MVoro.TessBook.neighbourIds_props

end MVoro.C12
