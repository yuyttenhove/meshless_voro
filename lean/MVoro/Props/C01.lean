/-
C01 — every cell is the nearest-generator region of its generator.
Property theorems; helper lemmas and proofs in `MVoro/Proofs/VorSet.lean` (T01.0 – T01.2) and in `Proofs/ClipFeasible`,
`Proofs/StarInvariant`, `Proofs/StarReach` (T01.4).
-/
import MVoro.Proofs.VorSet
import MVoro.Proofs.ClipFeasible
import MVoro.Proofs.StarInvariant
import MVoro.Proofs.StarReach

namespace MVoro.C01
open MVoro.VorSet

variable {E : Type*} [NormedAddCommGroup E] [InnerProductSpace ℝ E]

/-- **T01.0** the half space the code builds for a neighbour at `q` (normal `g - q`, through the
midpoint) is exactly "at least as close to `g` as to `q`". -/
theorem halfspace_is_closer (g q x : E) : x ∈ HS g q ↔ dist x g ≤ dist x q := mem_HS_iff g q x

/-- **T01.1** For candidates visited in non-decreasing distance and *any* radius function that bounds
the current cell, the clipping loop with security-radius termination (`safety_radius < dist` with
`safety_radius = 2 * rad`) returns the set of points of the start set `B` that are at least as close to
`g` as to every candidate — the definition of the Voronoi cell — for every point set, in every dimension. -/
theorem build_is_voronoi_cell (g : E) (rad : Set E → ℝ) (B : Set E) (qs : List E)
    (hsorted : qs.Pairwise (fun a b => dist g a ≤ dist g b))
    (hrad : ∀ S : Set E, S ⊆ B → S ⊆ Metric.closedBall g (rad S)) :
    run g rad B qs = {x ∈ B | ∀ q ∈ qs, dist x g ≤ dist x q} :=
  run_eq_voronoi g rad B qs hsorted hrad

/-- **T01.2** a candidate whose half space contains every vertex can be skipped (the code's `num_r = 0`). -/
theorem unclipped_plane_irrelevant {S V : Set E} {g q : E} (hS : S ⊆ convexHull ℝ V) (hV : V ⊆ HS g q) :
    S ∩ HS g q = S := drop_unclipped hS hV

/-- the radius the code uses (max vertex distance) is a valid radius function for a polytope -/
theorem vertex_radius_valid {V : Set E} {g : E} {R : ℝ} (hV : V ⊆ Metric.closedBall g R) :
    convexHull ℝ V ⊆ Metric.closedBall g R := hull_subset_ball hV

/-- non-vacuity: on the real line, box `[-1,1]`, generator `0`, candidates `[1, 3]`, radius `1`:
the hypotheses hold and the early exit fires at candidate `3`. -/
example : run (0 : ℝ) (fun _ => 1) (Set.Icc (-1) 1) [1, 3] = {x ∈ Set.Icc (-1 : ℝ) 1 | ∀ q ∈ [(1 : ℝ), 3], dist x 0 ≤ dist x q} := by
  apply build_is_voronoi_cell
  · simp [Real.dist_eq]
  · intro S hS x hx
    simpa [Real.dist_eq, abs_le] using hS hx

/-- **T01.4a** the vertex `Vertex::from_dual(cur, next, p)` created for a boundary edge is the point where the old edge
between the kept vertex `w` and the removed vertex `v` crosses the new plane: `w + t (v - w)` with `t ∈ [0, 1)`. -/
theorem clip_new_vertex_is_edge_crossing : type_of% @ClipFeasible.new_vertex_on_segment := @ClipFeasible.new_vertex_on_segment

/-- **T01.4b** "every vertex satisfies every half space of the cell" is an invariant of clipping, for all planes and
points (kept vertices by the decision that kept them, created vertices because they lie on an old edge). -/
theorem clip_preserves_feasibility : type_of% @ClipFeasible.feasible_preserved := @ClipFeasible.feasible_preserved

/-- **T01.4c** all vertex invariants of an exact clip together: for a closed surface (C18) of vertices that lie on their
planes, are positively oriented (the precondition of the exact predicate, C10) and satisfy every half space, and exact
decisions, every kept vertex and every created vertex `(x, y, p)` (one per boundary edge of the removed region) is good again
with respect to the enlarged plane set — for every configuration over any ordered field. -/
theorem clip_preserves_all_vertex_invariants : type_of% @Star.clip_invariant := @Star.clip_invariant

/-- **T01.4d** the start cell of `ConvexCell::init` (any box, any generator strictly inside, walls as bisectors of the mirror
images) is a closed surface of good vertices. -/
theorem init_cell_good : type_of% @Star.init_good := @Star.init_good

/-- **T01.4e** every cell reachable from the start cell by exact clips whose boundary reconstruction succeeded is a closed
surface (C18) of vertices that lie on their planes, are positively oriented (C10) and satisfy every half space of the cell. -/
theorem reachable_cells_good : type_of% @Star.reachable_from_init_good := @Star.reachable_from_init_good

/- **T01.4 partial** — NOT proved: a closed, consistently oriented surface (C18) whose vertices lie on their planes (C19)
and satisfy all half spaces (T01.4b) is the boundary of the intersection of the half spaces.  The exact oracle certifies it
per cell at run time (`Oracle.checkCell`, brute-force rebuild). -/

end MVoro.C01
