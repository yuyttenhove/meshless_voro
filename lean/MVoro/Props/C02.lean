/-
C02 — cells tile the domain: positive measures that sum to the box measure.
Property theorems (proofs in `MVoro/Proofs/VorSet.lean`, `MVoro/Proofs/Periodic.lean`).

What is proved for all generator sets: the cells cover the box, two cells overlap only inside a
bisector hyperplane (a proper affine subspace when the generators are distinct), the generator is
strictly inside each of its half spaces (so its cell contains a neighbourhood of it within the box:
positive measure), unit thickness of the unused axes.
`sum_measure_eq`, `cell_measure_pos`, `overlap_null` (Proofs/MeasureTiling.lean, Mathlib measure theory): for any Haar
measure (length, area, volume) on a finite-dimensional inner-product space the measures of the cells `Vor G i ∩ B` sum to
the measure of the box, two cells overlap in a null set, and every cell whose generator lies in the (convex, solid) box —
boundary included — has positive measure.  Together with `C01.build_is_voronoi_cell` (the clipping loop returns `Vor G i ∩ B`)
this is C02 for reflective boxes at full strength, in every dimension.
`sum_measure_eq_periodic`, `sum_measure_eq_box_lattice` (Proofs/MeasurePeriodic.lean): for periodic boxes the cells are
`VorP Λ G i` (nearest among all generators and ALL their lattice images, own images included); their union is a fundamental
domain of the lattice (every point has a nearest image because bounded sets hold finitely many lattice points; translates
overlap in null sets), hence the measures sum to the measure of the box — for every lattice spanned by a basis, every
dimension, every Haar measure.  `C06.images27_suffice` shows, for coordinate
boxes (`MVoro.Periodic`), that being nearest among the 3^d images the code enumerates is being nearest among all images; no
theorem states this for `VorP`.
What remains trusted in both cases: the identification of the code's signed tetrahedron sum with the Lebesgue measure of
that set (DESIGN §4 item 2), certified per run.
-/
import MVoro.Proofs.VorSet
import MVoro.Proofs.Periodic
import MVoro.Proofs.MeasureTiling
import MVoro.Proofs.MeasurePeriodic

namespace MVoro.C02
open MVoro.VorSet

variable {E : Type*} [NormedAddCommGroup E] [InnerProductSpace ℝ E]

/-- **T02.1** every point of the box (of the whole space) lies in some cell -/
theorem cells_cover {ι : Type*} [Finite ι] [Nonempty ι] (G : ι → E) (B : Set E) :
    B = ⋃ i, (Vor G i ∩ B) := by
  rw [← Set.iUnion_inter, cover_univ, Set.univ_inter]

/-- **T02.1** two cells overlap only on the bisector of their generators -/
theorem overlap_in_bisector {ι : Type*} (G : ι → E) (i j : ι) :
    Vor G i ∩ Vor G j ⊆ {x | inner ℝ (G i - G j) (x - (1/2 : ℝ) • (G i + G j)) = 0} := by
  rw [← bisector_eq_hyperplane]
  exact overlap_on_bisector G i j

/-- **T02.1** the bisector of two different generators is a proper hyperplane: it misses the generator itself -/
theorem bisector_misses_generator {a b : E} (h : a ≠ b) : a ∉ {x : E | dist x a = dist x b} :=
  bisector_proper h

/-- **T02.1 / T05.1** the generator lies strictly inside every half space its cell is cut with, so the cell is never empty
(positive measure is `cell_measure_pos`) -/
theorem generator_strictly_inside (g q : E) (h : q ≠ g) :
    0 < inner ℝ (g - q) (g - (1/2 : ℝ) • (g + q)) := gen_mem_HS_strict g q h

/-- **T02.3** unit thickness, arithmetic only: an unused axis is normalised to `[-1/2, 1/2]`, of length 1, so multiplying a base
measure by it changes nothing (no set and no measure occur in the statement) -/
theorem unit_thickness (base : ℝ) : base * (1/2 - (-1/2)) = base := MVoro.Periodic.prism_volume base

section measure
open MeasureTheory
variable {F : Type*} [NormedAddCommGroup F] [InnerProductSpace ℝ F] [FiniteDimensional ℝ F] [MeasurableSpace F] [BorelSpace F]

/-- **T02.2** the measures of the cells sum to the measure of the box, for pairwise different generators, any measurable
box, any Haar measure (length / area / volume), any dimension -/
theorem sum_measure_eq {ι : Type*} [Fintype ι] [Nonempty ι] (G : ι → F) (hG : Function.Injective G)
    (μ : Measure F) [μ.IsAddHaarMeasure] (B : Set F) (hB : MeasurableSet B) :
    ∑ i, μ (Vor G i ∩ B) = μ B := MVoro.MeasureTiling.sum_measure_eq G hG μ B hB

/-- **T02.2** every cell has strictly positive measure when its generator lies in the closed convex box with non-empty
interior — also on a face, an edge or a corner of the box -/
theorem cell_measure_pos {ι : Type*} [Fintype ι] (G : ι → F) (μ : Measure F) [μ.IsAddHaarMeasure] (B : Set F)
    (hconv : Convex ℝ B) (hint : (interior B).Nonempty) (i : ι) (hi : G i ∈ B) : 0 < μ (Vor G i ∩ B) :=
  MVoro.MeasureTiling.cell_measure_pos G μ B hconv hint i hi

/-- **T02.2** two cells of different generators overlap in a null set -/
theorem overlap_null {ι : Type*} (G : ι → F) (μ : Measure F) [μ.IsAddHaarMeasure] {i j : ι} (h : G i ≠ G j) :
    μ (Vor G i ∩ Vor G j) = 0 := MVoro.MeasureTiling.overlap_null G μ h

/-- **T02.2, periodic** the measures of the lattice-periodic cells sum to the measure of any fundamental domain of a locally
finite lattice, for generators pairwise different modulo the lattice -/
theorem sum_measure_eq_periodic {ι : Type*} [Fintype ι] [Nonempty ι] (Λ : AddSubgroup F) [Countable Λ] (G : ι → F)
    (hinj : ∀ i j (l : Λ), G i = G j + l → i = j ∧ l = 0)
    (hfin : ∀ s : Set F, Bornology.IsBounded s → (s ∩ (Λ : Set F)).Finite)
    (μ : Measure F) [μ.IsAddHaarMeasure] (D : Set F) (hD : IsAddFundamentalDomain Λ D μ) :
    ∑ i, μ (MVoro.MeasurePeriodic.VorP Λ G i) = μ D :=
  MVoro.MeasurePeriodic.sum_measure_eq_periodic hinj hfin μ D hD

/-- **T02.2, periodic box** the measures of the lattice-periodic cells sum to the measure of the half-open parallelepiped (box)
spanned by a basis (`b a = wₐ eₐ` for a box), for the lattice that basis spans -/
theorem sum_measure_eq_box_lattice {κ : Type*} [Fintype κ] (b : Module.Basis κ ℝ F) {ι : Type*} [Fintype ι] [Nonempty ι]
    (G : ι → F)
    (hinj : ∀ i j (l : (Submodule.span ℤ (Set.range b)).toAddSubgroup), G i = G j + l → i = j ∧ l = 0)
    (μ : Measure F) [μ.IsAddHaarMeasure] :
    ∑ i, μ (MVoro.MeasurePeriodic.VorP (Submodule.span ℤ (Set.range b)).toAddSubgroup G i) = μ (ZSpan.fundamentalDomain b) :=
  MVoro.MeasurePeriodic.sum_measure_eq_box_lattice b G hinj μ

/-- non-vacuity: two generators on the real line in the unit interval: the two lengths sum to 1 -/
example : ∑ i : Fin 2, volume (Vor (![0, 1] : Fin 2 → ℝ) i ∩ Set.Icc 0 1) = volume (Set.Icc (0 : ℝ) 1) :=
  sum_measure_eq _ (by intro a b h; fin_cases a <;> fin_cases b <;> simp_all) volume _ measurableSet_Icc

end measure

/-- non-vacuity: two generators on the real line -/
example : (Set.univ : Set ℝ) = ⋃ i : Fin 2, (Vor (![0, 1] : Fin 2 → ℝ) i ∩ Set.univ) := cells_cover _ _

end MVoro.C02
