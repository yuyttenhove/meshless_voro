/-
Exact certificate checker for minimal enclosing balls (C20, bounding_sphere.rs).  Import-free.

A ball `(c, r²)` is the minimal enclosing ball of `pts` as soon as it contains every point and its
centre is a convex combination of points lying exactly on its boundary (`checkCert`); soundness is
`MVoro.MEBProofs.checkCert_sound` (Proofs/MEBProofs).
-/
import MVoro.Model.Num
namespace MVoro.MEB
open MVoro

/-- `supp` = list of `(index into pts, weight λ)` -/
def checkCert (pts : Array Q3) (c : Q3) (r2 : Rat) (supp : List (Nat × Rat)) : Bool :=
  pts.all (fun p => decide (V3.norm2 (p - c) ≤ r2)) &&
  supp.all (fun s => decide (s.1 < pts.size) && decide (0 ≤ s.2) && decide (V3.norm2 (pts[s.1]! - c) = r2)) &&
  decide ((supp.map (·.2)).sum = 1) &&
  decide ((supp.map (fun s => s.2 * (pts[s.1]!).x)).sum = c.x) &&
  decide ((supp.map (fun s => s.2 * (pts[s.1]!).y)).sum = c.y) &&
  decide ((supp.map (fun s => s.2 * (pts[s.1]!).z)).sum = c.z)

end MVoro.MEB
