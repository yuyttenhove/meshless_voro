/-
Obligations for the translated vertex construction and safety radius (Gen/VertexRadius.lean, regenerated on every run
from src/voronoi/convex_cell.rs): `Vertex::from_dual` = intersection of its three planes + squared distance from the
generator in the ACTIVE subspace, stored with the dual triple in argument order; `update_safety_radius` = twice the root
of the maximum of those squared distances over all vertices; and the termination test `safety_radius < dist` of the clipping
loop is the exact test `4 · max r² < |g − q|²` of the cell model (C16).
-/
import MVoro.Gen.VertexRadius
import MVoro.Obl.Geom
import MVoro.Model.Cell
import MVoro.Proofs.ScalarReal
namespace MVoro.Obl
open MVoro MVoro.GeomHelpers

set_option linter.unusedSectionVars false

section generic
variable {α : Type} [Add α] [Sub α] [Mul α] [Div α] [Neg α] [NatCast α] [Scalar α]

theorem gen_safetyRadiusOfMax_eq (m : α) : Gen.safetyRadiusOfMax m = Ref.safetyRadiusOfMax m := rfl

end generic

theorem gen_safetyRadiusChain : Gen.safetyRadiusChain = ["self", "vertices", "iter", "map:radius2", "max_by:partial_cmp", "expect"] :=
  rfl

theorem gen_vertexDualOrder : Gen.vertexDualOrder = ["i", "j", "k"] := rfl

theorem gen_vertexFromDual_eq (pi pj pk : Plane ℝ) (g : V3 ℝ) (d : Dim) :
    Gen.vertexFromDual pi pj pk g d = Ref.vertexFromDual pi pj pk g d := by
  unfold Gen.vertexFromDual Ref.vertexFromDual
  rw [gen_intersectPlanes_eq]
  cases d <;> rfl

theorem ref_radius2_cell (dim : Nat) (hd : dim = 1 ∨ dim = 2 ∨ dim = 3) (g v : Q3) :
    V3.distance2 g (Ref.activeLoc v (Dim.fromNat dim)) = Cell.radius2 dim g v := by
  rcases hd with rfl | rfl | rfl <;> rfl

theorem safety_test_squared (m : ℝ) (hm : 0 ≤ m) (dx : V3 ℝ) :
    Scalar.lt (Ref.safetyRadiusOfMax m) (V3.length dx) = decide (4 * m < V3.norm2 dx) := by
  simp only [scalar_lt, Ref.safetyRadiusOfMax, scalar_sqrt, length_def, Nat.cast_ofNat, decide_eq_decide]
  rw [Real.lt_sqrt (by positivity), mul_pow, Real.sq_sqrt hm]
  norm_num

end MVoro.Obl
