/-
Obligation for the translated placement of the k-NN grid cells (Gen/Space.lean, regenerated from
src/space.rs on every run): the anchor of cell (i, j, k) is `anchor + (i·c_width.x, j·c_width.y, k·c_width.z)`,
which is what the lower-bound lemma `KnnProofs.minDist2_lower_bound` (through `InBox`) and the model
`Knn.mkSpace true` assume.
-/
import MVoro.Gen.Space
namespace MVoro.Obl

theorem cellLocAxes_componentwise : Gen.cellLocAxes = [0, 1, 2] := by decide

/-- `closest_loc` clamps every coordinate to `[loc, loc + width]` of the SAME coordinate: it is `Knn.closestLoc`, the closest
point of the cell (`KnnProofs.clampAxis_closest`) -/
theorem closestLoc_componentwise : Gen.closestLocAxes = [(0, 0, 0), (1, 1, 1), (2, 2, 2)] := by decide

theorem minDistToFace_componentwise : Gen.minDistToFaceWidthAxes = [0, 1, 2] := by decide

/-- a particle in a cell at ring distance > r is at least `dist_to_face + r * min width` away (`KnnProofs.ring_bound_3d`); the
largest width would overestimate and stop too early -/
theorem ringBound_uses_min_width : Gen.ringBoundWidthReduction = "min_element" := by decide

end MVoro.Obl
