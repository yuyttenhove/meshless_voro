/-
Obligation for the translated initial cell (Gen/CellInit.lean, regenerated on every run from `ConvexCell::init`): the eight
dual triples of the start box are the ones the exact cell model starts from.  `Star.initT`, whose orientation `Star.init_good`
proves positive for every generator strictly inside the box (C10, T10.5), is the same list written as `Dual`s; no theorem
states that equality.
-/
import MVoro.Gen.CellInit
import MVoro.Model.Cell
namespace MVoro.Obl
open MVoro

theorem gen_initialDuals : Gen.initialDuals = Cell.initDuals := by decide

/-- every corner has three different walls, every wall occurs in four of the eight corners -/
theorem initialDuals_shape :
    (∀ t ∈ Gen.initialDuals, t.1 ≠ t.2.1 ∧ t.2.1 ≠ t.2.2 ∧ t.1 ≠ t.2.2 ∧ t.1 < 6 ∧ t.2.1 < 6 ∧ t.2.2 < 6) ∧
    (∀ w, w < 6 → (Gen.initialDuals.filter fun t => t.1 == w || t.2.1 == w || t.2.2 == w).length = 4) := by
  decide

end MVoro.Obl
