/-
Obligation tying the translated orientation facts (Gen/Face.lean, regenerated from
src/voronoi/convex_cell.rs and src/voronoi/voronoi_face.rs on every run) to the documented contract:
the stored face normal points away from the left generator.
-/
import MVoro.Gen.Face

namespace MVoro.Obl

/-- the stored normal is `storedNormalSign * clipNormalSign * (g - q)/|g - q|`; pointing away from the left generator `g`
means the factor is `-1` -/
theorem gen_storedNormal_outward : Gen.storedNormalSign * Gen.clipNormalSign = -1 := by decide

end MVoro.Obl
