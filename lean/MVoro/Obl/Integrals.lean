/-
Obligations for the translated `collect` / `finalize` steps of the built-in integrals (Gen/Integrals.lean, regenerated on
every run from src/voronoi/integrals.rs and src/voronoi/voronoi_face.rs): generated = reference (Model/Build.lean) over
the reals, through the obligations of the translated `signed_volume_tet` / `signed_area_tri`; and the meaning of the
references: feeding a list of oriented tetrahedra accumulates the signed volume and the first moment, `finalize` turns the
moment into the volume-weighted mean of the tetrahedron centroids (C01, C02, C13, C14); for faces only the normalisation
factor of `finalize` is given its meaning (`faceNorm_spec`, C04); the stored face normal is never touched by `collect` /
`finalize`; the plain `VolumeIntegral` / `AreaIntegral` accumulate the same sums as the centroid variants (C13).
-/
import MVoro.Gen.Integrals
import MVoro.Obl.Geom
import MVoro.Proofs.ScalarReal
import MVoro.Proofs.GeomHelpers
namespace MVoro.Obl
open MVoro MVoro.GeomHelpers

/-! The `gen_*_eq` are proved semantically (case split on the sign test, then componentwise field arithmetic), so that renamed
locals, early returns, extracted helpers and local bindings in the source keep checking. -/

theorem lit25 : (Scalar.lit 25 2 : ℝ) = 1 / 4 := by rw [scalar_lit]; norm_num

macro "acc_tail" : tactic =>
  `(tactic| (
    simp only [Id.run, bind, pure, gen_signedVolumeTet_eq, gen_signedAreaTri_eq, lit25, N, slt_iff]
    try split_ifs
    all_goals first
      | rfl
      | (simp only [VolAcc.mk.injEq, FaceAcc.mk.injEq, FaceNAcc.mk.injEq, VolOnly.mk.injEq, AreaOnly.mk.injEq, Prod.mk.injEq]
         repeat' constructor
         all_goals first
           | rfl
           | ring
           | (apply V3.ext' <;> simp only [add_x, add_y, add_z, smul_x, smul_y, smul_z, Nat.cast_ofNat, Nat.cast_one, Nat.cast_zero] <;>
                first | rfl | ring | (field_simp) | (field_simp; ring)))))

theorem gen_volCentroidCollect_eq (a : VolAcc ℝ) (v0 v1 v2 g : V3 ℝ) :
    Gen.volCentroidCollect a v0 v1 v2 g = Ref.volCollect a v0 v1 v2 g := by
  simp only [Gen.volCentroidCollect, Ref.volCollect]; acc_tail

theorem gen_volCentroidFinalize_eq (a : VolAcc ℝ) : Gen.volCentroidFinalize a = Ref.volFinalize a := by
  simp only [Gen.volCentroidFinalize, Ref.volFinalize]; acc_tail

theorem gen_volOnlyCollect_eq (a : VolOnly ℝ) (v0 v1 v2 g : V3 ℝ) :
    (Gen.volOnlyCollect a v0 v1 v2 g).volume = (Ref.volCollect ⟨a.volume, ⟨0, 0, 0⟩⟩ v0 v1 v2 g).volume := by
  simp only [Gen.volOnlyCollect, Ref.volCollect]; acc_tail

theorem gen_volOnlyFinalize_eq (a : VolOnly ℝ) : Gen.volOnlyFinalize a = a := by
  simp only [Gen.volOnlyFinalize]; acc_tail

theorem gen_areaCentroidCollect_eq (a : FaceAcc ℝ) (v0 v1 v2 g : V3 ℝ) :
    ((Gen.areaCentroidCollect a v0 v1 v2 g).area, (Gen.areaCentroidCollect a v0 v1 v2 g).centroid)
      = Ref.faceCollect a.area a.centroid v0 v1 v2 g := by
  simp only [Gen.areaCentroidCollect, Ref.faceCollect]; acc_tail

theorem gen_areaCentroidFinalize_eq (a : FaceAcc ℝ) :
    Gen.areaCentroidFinalize a = ⟨a.area, V3.smul (Ref.faceNorm a.area) a.centroid⟩ := by
  simp only [Gen.areaCentroidFinalize, Ref.faceNorm]; acc_tail

theorem gen_areaOnlyCollect_eq (a : AreaOnly ℝ) (v0 v1 v2 g : V3 ℝ) :
    (Gen.areaOnlyCollect a v0 v1 v2 g).area = (Ref.faceCollect a.area ⟨0, 0, 0⟩ v0 v1 v2 g).1 := by
  simp only [Gen.areaOnlyCollect, Ref.faceCollect]; acc_tail

theorem gen_areaOnlyFinalize_eq (a : AreaOnly ℝ) : Gen.areaOnlyFinalize a = a := by
  simp only [Gen.areaOnlyFinalize]; acc_tail

theorem gen_voronoiFaceCollect_eq (a : FaceNAcc ℝ) (v0 v1 v2 g : V3 ℝ) :
    ((Gen.voronoiFaceCollect a v0 v1 v2 g).area, (Gen.voronoiFaceCollect a v0 v1 v2 g).centroid)
      = Ref.faceCollect a.area a.centroid v0 v1 v2 g ∧ (Gen.voronoiFaceCollect a v0 v1 v2 g).normal = a.normal := by
  constructor
  · simp only [Gen.voronoiFaceCollect, Ref.faceCollect]; acc_tail
  · simp only [Gen.voronoiFaceCollect]; acc_tail

theorem gen_voronoiFaceFinalize_eq (a : FaceNAcc ℝ) :
    Gen.voronoiFaceFinalize a = ⟨a.area, V3.smul (Ref.faceNorm a.area) a.centroid, a.normal⟩ := by
  simp only [Gen.voronoiFaceFinalize, Ref.faceNorm]; acc_tail

/-- C13: the stored face values and `AreaCentroidIntegral` are the same function of the triangle stream -/
theorem voronoiFace_eq_areaCentroid (a : FaceNAcc ℝ) (v0 v1 v2 g : V3 ℝ) :
    (Gen.voronoiFaceCollect a v0 v1 v2 g).area = (Gen.areaCentroidCollect ⟨a.area, a.centroid⟩ v0 v1 v2 g).area ∧
    (Gen.voronoiFaceCollect a v0 v1 v2 g).centroid = (Gen.areaCentroidCollect ⟨a.area, a.centroid⟩ v0 v1 v2 g).centroid := by
  have h1 := (gen_voronoiFaceCollect_eq a v0 v1 v2 g).1
  have h2 := gen_areaCentroidCollect_eq ⟨a.area, a.centroid⟩ v0 v1 v2 g
  rw [← h2] at h1
  exact ⟨(Prod.mk.inj h1).1, (Prod.mk.inj h1).2⟩

/-- base triangle; the apex is the generator -/
structure Tet where
  v0 : V3 ℝ
  v1 : V3 ℝ
  v2 : V3 ℝ

noncomputable def volFold (g : V3 ℝ) (ts : List Tet) (acc : VolAcc ℝ) : VolAcc ℝ :=
  ts.foldl (fun a t => Ref.volCollect a t.v0 t.v1 t.v2 g) acc

theorem volFold_spec (g : V3 ℝ) (ts : List Tet) (acc : VolAcc ℝ) :
    (volFold g ts acc).volume = acc.volume + (ts.map fun t => Ref.signedVolumeTet t.v0 t.v1 t.v2 g).sum ∧
    (volFold g ts acc).centroid.x = acc.centroid.x + (ts.map fun t => Ref.signedVolumeTet t.v0 t.v1 t.v2 g * (t.v0.x + t.v1.x + t.v2.x + g.x)).sum ∧
    (volFold g ts acc).centroid.y = acc.centroid.y + (ts.map fun t => Ref.signedVolumeTet t.v0 t.v1 t.v2 g * (t.v0.y + t.v1.y + t.v2.y + g.y)).sum ∧
    (volFold g ts acc).centroid.z = acc.centroid.z + (ts.map fun t => Ref.signedVolumeTet t.v0 t.v1 t.v2 g * (t.v0.z + t.v1.z + t.v2.z + g.z)).sum := by
  induction ts generalizing acc with
  | nil => simp [volFold]
  | cons t ts ih =>
    simp only [volFold, List.foldl_cons, List.map_cons, List.sum_cons, ← add_assoc] at ih ⊢
    exact ih (Ref.volCollect acc t.v0 t.v1 t.v2 g)

/-- division by `4 V`: the volume-weighted mean of the tetrahedron centroids `(v0 + v1 + v2 + g) / 4` -/
theorem volFinalize_spec (a : VolAcc ℝ) (h : 0 < a.volume) :
    (Ref.volFinalize a).volume = a.volume ∧ (Ref.volFinalize a).centroid = V3.smul (1 / (4 * a.volume)) a.centroid := by
  simp only [Ref.volFinalize, slt_iff, Nat.cast_zero, Nat.cast_one, Nat.cast_ofNat, h, if_true, div_div, true_and]

/-- what an unconstructed or degenerate cell reports -/
theorem volFinalize_nonpos (a : VolAcc ℝ) (h : a.volume ≤ 0) : (Ref.volFinalize a).centroid = ⟨0, 0, 0⟩ := by
  simp only [Ref.volFinalize, slt_iff, Nat.cast_zero, not_lt.mpr h, if_false]
  apply V3.ext' <;> simp only [smul_x, smul_y, smul_z, zero_mul]

theorem faceNorm_spec (A : ℝ) (h : 0 < A) : Ref.faceNorm A = 1 / (3 * A) := by
  simp only [Ref.faceNorm, slt_iff, Nat.cast_zero, Nat.cast_one, Nat.cast_ofNat, h, if_true]

example : (volFold ⟨0, 0, -1⟩ [⟨⟨0, 0, 0⟩, ⟨1, 0, 0⟩, ⟨0, 1, 0⟩⟩] ⟨0, ⟨0, 0, 0⟩⟩).volume
    = 0 + ([Ref.signedVolumeTet ⟨0, 0, 0⟩ ⟨1, 0, 0⟩ ⟨0, 1, 0⟩ (⟨0, 0, -1⟩ : V3 ℝ)]).sum := by
  have := (volFold_spec ⟨0, 0, -1⟩ [⟨⟨0, 0, 0⟩, ⟨1, 0, 0⟩, ⟨0, 1, 0⟩⟩] ⟨0, ⟨0, 0, 0⟩⟩).1
  simpa using this

end MVoro.Obl
