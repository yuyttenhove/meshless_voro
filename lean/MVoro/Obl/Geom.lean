/-
Obligations tying the translated float helpers `Gen.*` (Gen/Geom.lean, regenerated from src/geometry.rs
on every run) to the hand-written reference `Ref.*` (Model/Geom.lean) that the C19 theorems are about,
over the reals.  Each proof first tries definitional unfolding and otherwise compares components with
`ring` / `field_simp` (a rewrite that changes the function does not check).  `sqrt`, `|·|`, `signum` and the
comparisons are opaque atoms: their ARGUMENTS are compared by `ring` through congruence, so an algebraically equivalent
rewrite inside an argument still checks, while one that reorders the atoms themselves (`sign * length` for `length * sign`:
`congr` pairs factors by position) does not and shows up as a failed obligation, not as a wrong answer.
-/
import MVoro.Gen.Geom
import MVoro.Proofs.GeomHelpers
namespace MVoro.Obl
open MVoro MVoro.GeomHelpers

set_option linter.unusedSimpArgs false
set_option linter.unusedTactic false
set_option linter.unreachableTactic false

theorem sphere_ext {a b : Sphere ℝ} (hc : a.center = b.center) (hr : a.radius = b.radius) : a = b := by
  cases a; cases b; simp_all

macro "vec_ring" : tactic =>
  `(tactic| (apply V3.ext' <;>
      (simp only [add_x, add_y, add_z, sub_x, sub_y, sub_z, smul_x, smul_y, smul_z, cross_x, cross_y, cross_z,
        divs_x, divs_y, divs_z, dot_def, norm2_def, det3cols_def, V3.projectOnto, N, Nat.cast_ofNat, Nat.cast_one]
       <;> first | rfl | ring | (field_simp; ring))))

theorem gen_projectOnto_eq (pl : Plane ℝ) (x : V3 ℝ) : Gen.projectOnto pl x = Ref.projectOnto pl x := by
  first
  | rfl
  | (simp only [Gen.projectOnto, Ref.projectOnto]; vec_ring)

theorem gen_intersectPlanes_eq (p0 p1 p2 : Plane ℝ) : Gen.intersectPlanes p0 p1 p2 = Ref.intersectPlanes p0 p1 p2 := by
  first
  | rfl
  | (simp only [Gen.intersectPlanes, Ref.intersectPlanes]; vec_ring)

theorem gen_projectOntoIntersection_eq (a b : Plane ℝ) (x : V3 ℝ) :
    Gen.projectOntoIntersection a b x = Ref.projectOntoIntersection a b x := by
  first
  | rfl
  | (simp only [Gen.projectOntoIntersection, Ref.projectOntoIntersection, gen_intersectPlanes_eq])
  | (simp only [Gen.projectOntoIntersection, Ref.projectOntoIntersection, gen_intersectPlanes_eq, Ref.intersectPlanes]; vec_ring)

theorem gen_signedVolumeTet_eq (v0 v1 v2 v3 : V3 ℝ) : Gen.signedVolumeTet v0 v1 v2 v3 = Ref.signedVolumeTet v0 v1 v2 v3 := by
  first
  | rfl
  | (simp only [Gen.signedVolumeTet, Ref.signedVolumeTet, det3cols_def, sub_x, sub_y, sub_z, N]; ring)

theorem gen_signedAreaTri_eq (v0 v1 v2 t : V3 ℝ) : Gen.signedAreaTri v0 v1 v2 t = Ref.signedAreaTri v0 v1 v2 t := by
  first
  | rfl
  | (simp only [Gen.signedAreaTri, Ref.signedAreaTri]; congr 2 <;> vec_ring)

theorem gen_sphere2_eq (a b : V3 ℝ) : Gen.sphere2 a b = Ref.sphere2 a b := by
  first
  | rfl
  | (apply sphere_ext <;> simp only [Gen.sphere2, Ref.sphere2] <;> first | rfl | vec_ring | ring)

theorem gen_sphere3_eq (a b c : V3 ℝ) : Gen.sphere3 a b c = Ref.sphere3 a b c := by
  first
  | rfl
  | (apply sphere_ext <;> simp only [Gen.sphere3, Ref.sphere3] <;> first | rfl | vec_ring | (congr 2; ring))

theorem gen_sphere4_eq (a b c d : V3 ℝ) : Gen.sphere4 a b c d = Ref.sphere4 a b c d := by
  first
  | rfl
  | (apply sphere_ext <;> simp only [Gen.sphere4, Ref.sphere4, V4.mul, V4.add, V4.ones] <;> first | rfl | vec_ring | ring)

theorem gen_contains_eq (s : Sphere ℝ) (x : V3 ℝ) : Gen.contains s x = Ref.contains s x := by
  first
  | rfl
  | (simp only [Gen.contains, Ref.contains]; congr 2 <;> ring)

theorem gen_extend_eq (s : Sphere ℝ) (x : V3 ℝ) : Gen.extend s x = Ref.extend s x := by
  simp only [Gen.extend, Ref.extend, Id.run, gen_contains_eq]
  cases h : Ref.contains s x <;> simp [h] <;> first | rfl | (apply sphere_ext <;> first | rfl | vec_ring)

end MVoro.Obl
