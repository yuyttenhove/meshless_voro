/-
Obligations for the translated bookkeeping rules (Gen/Rules.lean, regenerated on every run from
src/voronoi/voronoi_cell.rs, src/voronoi/convex_cell.rs, src/voronoi.rs, src/voronoi/voronoi_face.rs): the rule that
decides which faces a cell stores, the skip rule of the symmetric face integrals, the cells a stored face is linked to by
`finalize`, and the closure of `neighbour_ids` are — for every index, every mask, every plane — the functions of the
bookkeeping model `Model/Tess`, about which `Proofs/TessBook` proves C03 (stored exactly once, listed by both),
C07 (storage under masks), C12 (prefix sums, slices, neighbour iterator) and C13 (sym = filtered non-sym = stored).
-/
import MVoro.Gen.Rules
import MVoro.Model.Tess
namespace MVoro.Obl
open MVoro MVoro.Tess

/-- how the model's `shifted : Bool` is seen by the generated rules (`shift : Option DVec3`, only its presence matters) -/
def shiftOpt (b : Bool) : Option Unit := if b then some () else none

/-- an index outside the mask would panic in the code, the model reads `true` there (never reached: masks have one entry per
generator) -/
theorem gen_shouldConstructFace_eq (idx : Nat) (mask : Option (List Bool)) (p : PlaneInfo) :
    Gen.shouldConstructFace p.valid p.right (shiftOpt p.shifted) idx (mask.map fun m r => m.getD r true)
      = Tess.shouldConstruct idx mask p := by
  rcases p with ⟨right, shifted, valid, hasTet⟩
  cases right <;> cases shifted <;> cases mask <;>
    simp [Gen.shouldConstructFace, Tess.shouldConstruct, Tess.maskedOut, shiftOpt]

theorem gen_symSkip_eq (idx : Nat) (active : List Bool) (f : Face) :
    Gen.symSkip f.right (shiftOpt f.shifted) idx (fun r => active.getD r false) = Tess.symSkip idx active f := by
  rcases f with ⟨left, right, shifted, plane⟩
  cases right <;> cases shifted <;> simp [Gen.symSkip, Tess.symSkip, shiftOpt]

theorem gen_links_eq (f : Face) : Gen.links f.left f.right (shiftOpt f.shifted) = Tess.links f := by
  rcases f with ⟨left, right, shifted, plane⟩
  cases right <;> cases shifted <;> simp [Gen.links, Tess.links, shiftOpt]

theorem gen_neighbourIds_eq (v : Voronoi) (c : VCell) :
    Tess.neighbourIds v c = (Tess.faceIndices v c).filterMap fun i =>
      match v.faces[i]? with
      | none => none
      | some f => Gen.neighbourOf f.left f.right (shiftOpt f.shifted) c.idx := by
  unfold Tess.neighbourIds
  congr 1
  funext i
  cases h : v.faces[i]? with
  | none => rfl
  | some f =>
    rcases f with ⟨left, right, shifted, plane⟩
    cases right <;> cases shifted <;>
      simp [Gen.neighbourOf, Gen.facePeriodic, Gen.faceBoundary, shiftOpt]

/-- cell 2 of a masked build (`[true, false, true]`) stores its unshifted face towards the unselected cell 1 and not the one
towards the selected cell 0 -/
example : Gen.shouldConstructFace true (some 1) none 2 (some fun r => [true, false, true].getD r true) = true ∧
    Gen.shouldConstructFace true (some 0) none 2 (some fun r => [true, false, true].getD r true) = false := by
  decide

end MVoro.Obl
