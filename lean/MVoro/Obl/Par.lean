/-
The shape of the parallel loops (Gen/Par.lean, regenerated from src/voronoi.rs on every run): every rayon-guarded statement is
the sequential statement with the source adapter swapped for its indexed parallel counterpart, and only order-preserving
indexed adapters occur.  `MVoro.SchedProofs` in `Proofs/Misc` adds that any completion order / any split tree of an indexed
collect gives the sequential result.
-/
import MVoro.Gen.Par
namespace MVoro.Obl

def stripPar : String → String
  | "par_iter" => "iter"
  | "par_iter_mut" => "iter_mut"
  | "into_par_iter" => "into_iter"
  | s => s

/-- rayon adapters whose `collect` into a `Vec` preserves index order (indexed sources, `enumerate`, `map`, `zip`;
`filter_map` / `flatten` followed by `collect` keep the relative order of the pieces) -/
def orderPreserving : List String :=
  ["par_iter", "par_iter_mut", "into_par_iter", "enumerate", "map", "zip", "filter_map", "flatten", "collect"]

/-- `unsafe` blocks that exist in the pinned tree and touch no shared state: the unchecked triple borrow in util.rs
and the type-state transmute / `unwrap_unchecked` in convex_cell.rs -/
def benign : List String := ["convex_cell.rs:unsafe", "util.rs:unsafe"]

theorem par_is_seq_with_parallel_source : Gen.parLoops.map (·.map stripPar) = Gen.seqLoops := by decide

theorem par_adapters_order_preserving :
    Gen.parLoops.all (fun c => c.all (fun a => orderPreserving.contains a)) = true := by decide

theorem par_loops_end_in_collect : Gen.parLoops.all (fun c => c.getLast? == some "collect") = true := by decide

theorem no_shared_mutable_state : Gen.sharedStateHits.all (fun h => benign.contains h) = true := by decide

/-- all parallel code sits in the rayon-guarded statements above: there is no function that exists only with the feature -/
theorem no_feature_only_items : Gen.featureOnlyItems = [] := by decide

theorem loops_present : Gen.parLoops ≠ [] := by decide

end MVoro.Obl
