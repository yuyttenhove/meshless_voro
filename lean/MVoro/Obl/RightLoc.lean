/-
Obligations for the translated `HalfSpace::right_loc` (Gen/RightLoc.lean, regenerated on every run from
src/voronoi/half_space.rs): generated = reference; the right point of a neighbour plane is the neighbour plus its shift;
the right point of a wall is the mirror image of the generator, and the wall IS the bisector of the generator and that
mirror image (`wall_halfspace`) — which is what makes the in-sphere predicate on (generator, three right points, candidate)
decide a filter tie also for vertices on walls (C05, C10).
-/
import MVoro.Gen.RightLoc
import MVoro.Obl.Geom
import MVoro.Proofs.ScalarReal
namespace MVoro.Obl
open MVoro MVoro.GeomHelpers

set_option linter.unusedSimpArgs false

theorem gen_rightLoc_eq (h : HalfSpaceM ℝ) (r s : Option (V3 ℝ)) (l : V3 ℝ) :
    Gen.rightLoc h r s l = Ref.rightLoc h r s l := by
  unfold Gen.rightLoc Ref.rightLoc Ref.ngbLoc
  cases r <;> cases s <;> simp only [Id.run, bind, pure, gen_projectOnto_eq]

theorem rightLoc_neighbour (h : HalfSpaceM ℝ) (g : V3 ℝ) (s : Option (V3 ℝ)) (l : V3 ℝ) :
    Ref.rightLoc h (some g) s l = Ref.ngbLoc g s := rfl

/-- how much farther `x` is from the mirror image of `l` than from `l`: the signed side of `x`, times a factor that is positive
when `l` is on the inner side -/
theorem distance2_mirror (h : HalfSpaceM ℝ) (s : Option (V3 ℝ)) (l x : V3 ℝ) (hn : V3.dot h.plane.n h.plane.n ≠ 0) :
    V3.distance2 x (Ref.rightLoc h none s l) - V3.distance2 x l =
      4 * (V3.dot h.plane.n (l - h.plane.p) / V3.dot h.plane.n h.plane.n) * V3.dot h.plane.n (x - h.plane.p) := by
  -- the mirror image is `l - 2c n` with `c = n·(l - p) / n·n`, so `|x - m|² - |x - l|² = 4c n·(x - l) + 4c² n·n`
  have hc := div_mul_cancel₀ (V3.dot h.plane.n (l - h.plane.p)) hn
  have e : x - Ref.rightLoc h none s l
      = (x - l) + V3.smul (2 * (V3.dot h.plane.n (l - h.plane.p) / V3.dot h.plane.n h.plane.n)) h.plane.n := by
    refine V3.ext_of_dot fun w => ?_
    simp only [Ref.rightLoc, projectOnto_eq, Nat.cast_ofNat, V3.dot_sub_right, V3.dot_add_right, V3.dot_smul_right,
      V3.dot_comm _ h.plane.n]
    ring
  generalize V3.dot h.plane.n (l - h.plane.p) / V3.dot h.plane.n h.plane.n = c at hc e ⊢
  rw [V3.distance2, V3.distance2, e, V3.norm2_add, V3.norm2_smul, V3.dot_smul_right, V3.norm2_eq_dot h.plane.n,
    V3.dot_comm _ h.plane.n]
  simp only [V3.dot_sub_right] at hc ⊢
  linear_combination (4 * c) * hc

/-- C05 / C10: for a generator strictly on the inner side, the wall is the bisector of the generator and its mirror image -/
theorem wall_halfspace (h : HalfSpaceM ℝ) (s : Option (V3 ℝ)) (l : V3 ℝ) (hn : V3.dot h.plane.n h.plane.n ≠ 0)
    (hin : 0 < V3.dot h.plane.n (l - h.plane.p)) (x : V3 ℝ) :
    0 ≤ V3.dot h.plane.n (x - h.plane.p) ↔ V3.distance2 x l ≤ V3.distance2 x (Ref.rightLoc h none s l) := by
  have hD : 0 < V3.dot h.plane.n h.plane.n := lt_of_le_of_ne (V3.norm2_nonneg _) (Ne.symm hn)
  rw [← sub_nonneg (b := V3.distance2 x l), distance2_mirror h s l x hn, mul_nonneg_iff_of_pos_left (by positivity)]

/-- generator (1/4, 0, 0), wall x = 0 with inward normal (1,0,0) -/
example : Ref.rightLoc (⟨⟨⟨1, 0, 0⟩, ⟨0, 0, 0⟩⟩, 0, 0⟩ : HalfSpaceM ℝ) none none ⟨1/4, 0, 0⟩ = ⟨-1/4, 0, 0⟩ := by
  apply V3.ext' <;>
  · simp only [Ref.rightLoc, projectOnto_eq, dot_def, sub_x, sub_y, sub_z, add_x, add_y, add_z, smul_x, smul_y, smul_z]
    norm_num

end MVoro.Obl
