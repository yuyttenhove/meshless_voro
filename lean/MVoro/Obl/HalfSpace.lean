/-
Obligations for the translated floating-point filter (Gen/HalfSpace.lean, regenerated from
src/voronoi/half_space.rs on every run): `HalfSpace::new` caches `d = n·p` and the error bound
`1e-13 · (1 + |n|·|p|)` (componentwise absolute values), `HalfSpace::clip` returns 0 ("ask the exact predicate")
iff `|n·v - d|` is below that bound and the sign of `n·v - d` otherwise.  Proved over the reals, semantically.

The two `gen_*_eq` try `rfl` first; the semantic proof is the fall-back for a regenerated `Gen` in which `d`, the bound or the
clipped value is written in another, polynomially equal way (`ring`, with `|·|` and the literals as atoms).  While `rfl` succeeds
the fall-back is reported as never executed, hence the two tactic linters are off.
-/
import MVoro.Gen.HalfSpace
import MVoro.Proofs.GeomHelpers
namespace MVoro.Obl
open MVoro MVoro.GeomHelpers

set_option linter.unusedTactic false
set_option linter.unreachableTactic false

theorem gen_halfSpaceNew_eq (n p : V3 ℝ) : Gen.halfSpaceNew n p = Ref.halfSpaceNew n p := by
  first
  | rfl
  | (simp only [Gen.halfSpaceNew, Ref.halfSpaceNew, HalfSpaceM.mk.injEq, true_and]; first | ring | (constructor <;> ring))

theorem gen_halfSpaceClip_eq (h : HalfSpaceM ℝ) (v : V3 ℝ) : Gen.halfSpaceClip h v = Ref.halfSpaceClip h v := by
  first
  | rfl
  | (simp only [Gen.halfSpaceClip, Ref.halfSpaceClip, dot_def]; congr 2 <;> ring)

/-- why `1 + |n·p|` would not do: the value of the sum can cancel to 0 (a plane through the origin whose midpoint is far away),
the SIZE of the terms does not -/
theorem bound_dominates_value (n p : V3 ℝ) :
    (1 / 10 ^ 13 : ℝ) * (1 + |V3.dot n p|) ≤ (Ref.halfSpaceNew n p).errb := by
  have h : |V3.dot n p| ≤ V3.dot (V3.abs n) (V3.abs p) :=
    (abs_add_three _ _ _).trans_eq (by rw [abs_mul, abs_mul, abs_mul]; rfl)
  show (1 / 10 ^ 13 : ℝ) * (1 + |V3.dot n p|) ≤ Scalar.lit 1 13 * ((N ℝ 1) + V3.dot (V3.abs n) (V3.abs p))
  rw [scalar_lit, N, Nat.cast_one]
  exact mul_le_mul_of_nonneg_left (add_le_add le_rfl h) (by positivity)

end MVoro.Obl
