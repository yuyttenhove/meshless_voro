/-
Obligations for the translated keys of the periodic best-first search (Gen/NN.lean, regenerated on every run from
src/rtree_nn.rs): generated = reference (Model/Build.lean), and over the reals:

* the key of an inner node under a query shift is a lower bound of the key of every leaf inside its envelope
  (`envelope_key_lower_bound`), the hypothesis under which `BestFirst` proves "complete and in order of distance" (C17);
* the key of a leaf is the squared distance between the query point and the image `loc - shift` of the generator
  (`leaf_key_is_image_distance`), and `generator + reported shift` is that image (`reportedShift_spec`, C06);
* images are enumerated over `{-1,0,1}` along active axes only, each query shift is `(i,j,k) ⊙ width`.
-/
import MVoro.Gen.NN
import MVoro.Proofs.GeomHelpers
import MVoro.Proofs.ScalarReal
import MVoro.Proofs.BestFirst
namespace MVoro.Obl
open MVoro MVoro.GeomHelpers

set_option linter.unusedSectionVars false

section generic
variable {α : Type} [Add α] [Sub α] [Mul α] [Div α] [Neg α] [NatCast α] [Scalar α]

theorem gen_reportedShift_eq (s : V3 α) : Gen.reportedShift s = Ref.reportedShift s := rfl

theorem gen_nnClamp_eq (x lo hi : α) : Gen.nnClamp x lo hi = Ref.clamp x lo hi := rfl

end generic

/- `Gen/NN.lean` is regenerated from the Rust source on every run: where `rfl` does not close such an equation, the
second alternative still accepts an algebraically equivalent rewrite of the source (DESIGN §2); while `rfl` succeeds
the linters see that alternative as never executed -/
set_option linter.unusedTactic false in
set_option linter.unreachableTactic false in
theorem gen_wrapEnvDist2_eq (b : Box3 ℝ) (p s : V3 ℝ) : Gen.wrapEnvDist2 b p s = Ref.wrapEnvDist2 b p s := by
  first
  | rfl
  | (simp only [Gen.wrapEnvDist2, Ref.wrapEnvDist2, Id.run, pure, gen_nnClamp_eq]; try ring)

theorem gen_wrapPointDist2_eq (l p s : V3 ℝ) : Gen.wrapPointDist2 l p s = Ref.wrapPointDist2 l p s := by
  simp only [Gen.wrapPointDist2, Ref.wrapPointDist2, Id.run, pure, norm2_def, sub_x, sub_y, sub_z, add_x, add_y,
    add_z]
  try ring

theorem gen_imageRanges :
    Gen.imageRangeI = (-1, 1) ∧
    (∀ d, Gen.imageRangeJ d = if d = .OneD then (0, 0) else (-1, 1)) ∧
    (∀ d, Gen.imageRangeK d = if d = .ThreeD then (-1, 1) else (0, 0)) := by
  refine ⟨rfl, ?_, ?_⟩ <;> intro d <;> cases d <;> rfl

theorem gen_queryShift_eq (i j k : ℝ) (w : V3 ℝ) : Gen.queryShift i j k w = ⟨i * w.x, j * w.y, k * w.z⟩ := rfl

theorem clamp_closer (x lo hi l : ℝ) (h1 : lo ≤ l) (h2 : l ≤ hi) :
    (Ref.clamp x lo hi - x) * (Ref.clamp x lo hi - x) ≤ (x - l) * (x - l) := by
  have := BestFirst.clamp_lower_bound x h1 h2
  rw [Ref.clamp, smin_def, smax_def]
  linarith

/-- C17 (T17.2) on the translated keys -/
theorem envelope_key_lower_bound (b : Box3 ℝ) (loc p s : V3 ℝ)
    (hx : b.lower.x ≤ loc.x ∧ loc.x ≤ b.upper.x) (hy : b.lower.y ≤ loc.y ∧ loc.y ≤ b.upper.y)
    (hz : b.lower.z ≤ loc.z ∧ loc.z ≤ b.upper.z) :
    Ref.wrapEnvDist2 b p s ≤ Ref.wrapPointDist2 loc p s := by
  simp only [Ref.wrapEnvDist2, Ref.wrapPointDist2, norm2_def, sub_x, sub_y, sub_z, add_x, add_y, add_z]
  have h1 := clamp_closer (p.x + s.x) b.lower.x b.upper.x loc.x hx.1 hx.2
  have h2 := clamp_closer (p.y + s.y) b.lower.y b.upper.y loc.y hy.1 hy.2
  have h3 := clamp_closer (p.z + s.z) b.lower.z b.upper.z loc.z hz.1 hz.2
  linarith

theorem leaf_key_is_image_distance (loc p s : V3 ℝ) :
    Ref.wrapPointDist2 loc p s = V3.distance2 p (loc - s) := by
  simp only [Ref.wrapPointDist2, norm2_def, distance2_def, sub_x, sub_y, sub_z, add_x, add_y, add_z]
  ring

/-- C06 / C17: `generator + reported shift` is the image whose distance the key is -/
theorem reportedShift_spec (s : V3 ℝ) :
    (Ref.reportedShift s = none ↔ s = ⟨0, 0, 0⟩) ∧ (∀ r, Ref.reportedShift s = some r → r = -s) ∧
    (∀ loc p : V3 ℝ, Ref.wrapPointDist2 loc p s = V3.distance2 p (Ref.ngbLoc loc (Ref.reportedShift s))) := by
  have hz : (Scalar.eqb s.x (N ℝ 0) && Scalar.eqb s.y (N ℝ 0) && Scalar.eqb s.z (N ℝ 0)) = true ↔ s = ⟨0, 0, 0⟩ := by
    simp only [Bool.and_eq_true, N, Nat.cast_zero, eqb_zero_iff]
    exact ⟨fun ⟨⟨h1, h2⟩, h3⟩ => V3.ext' h1 h2 h3, fun h => h ▸ ⟨⟨rfl, rfl⟩, rfl⟩⟩
  -- what is left of the third part after `leaf_key_is_image_distance`: `ngbLoc loc (reportedShift s) = loc - s`
  simp only [leaf_key_is_image_distance]
  unfold Ref.reportedShift
  split
  next h =>
    obtain rfl := hz.1 h
    exact ⟨iff_of_true rfl rfl, (fun _ hr => nomatch hr),
      fun loc p => congrArg _ (V3.ext' (sub_zero _) (sub_zero _) (sub_zero _))⟩
  next h =>
    exact ⟨iff_of_false (Option.some_ne_none _) (mt hz.2 h), fun _ hr => (Option.some.inj hr).symm,
      fun loc p => congrArg _ (V3.ext' (sub_eq_add_neg _ _) (sub_eq_add_neg _ _) (sub_eq_add_neg _ _))⟩

end MVoro.Obl
