/-
Obligations for the translated pieces of `ConvexCell::clip_by_plane` (Gen/ClipVertex.lean, regenerated on every run from
src/voronoi/convex_cell.rs):

* the decision for one vertex: removed iff the filter says "strictly outside", or the filter ties and the exact predicate
  is negative (C05);
* the exact predicate is asked about (generator, right points of the vertex's three planes in dual order, right point of the
  new plane) — the argument order of `C10.insphere_power` (determinant = orientation × power of the point) and of
  `Star.exact_decision_iff` (negative iff the vertex is strictly closer to the new point than to the generator) (C10);
* a new vertex is `(cur, next, new plane)` (C18); the swap-to-tail partition and the walk once around the cycle are
  compared exactly by the correspondence (op clipperm), not re-read from the syntax.
-/
import MVoro.Gen.ClipVertex
import MVoro.Proofs.ScalarReal
namespace MVoro.Obl
open MVoro MVoro.GeomHelpers

set_option linter.unusedSimpArgs false
set_option linter.unusedSectionVars false

theorem gen_exactArgs : Gen.exactArgs = ["gen", "dual0", "dual1", "dual2", "new"] := rfl
/-- counter-clockwise like the vertices it replaces -/
theorem gen_newVertexDual : Gen.newVertexDual = ["cur", "next", "p_idx"] := rfl

section generic
variable {α : Type} [Add α] [Sub α] [Mul α] [Div α] [Neg α] [NatCast α] [Scalar α]

theorem gen_clipRemoved_eq (f e : α) : Gen.clipRemoved f e = Ref.clipRemoved f e := by
  unfold Gen.clipRemoved Ref.clipRemoved Scalar.eqb
  simp only [Id.run, bind, pure]
  split <;> rfl

end generic

theorem clipRemoved_iff (f e : ℝ) : Ref.clipRemoved f e = true ↔ f < 0 ∨ (f = 0 ∧ e < 0) := by
  unfold Ref.clipRemoved Scalar.eqb
  simp only [Nat.cast_zero]
  by_cases h0 : f = 0
  · subst h0; simp
  · have : ¬ (f ≤ 0 ∧ 0 ≤ f) := fun h => h0 (le_antisymm h.1 h.2)
    simp [this, h0]

/-- a filter tie with a negative determinant removes the vertex, a positive filter value keeps it -/
example : Ref.clipRemoved (0 : ℝ) (-1) = true ∧ Ref.clipRemoved (1 : ℝ) (-1) = false := by
  rw [← Bool.not_eq_true, clipRemoved_iff, clipRemoved_iff]
  norm_num

end MVoro.Obl
