/-
Obligations for the translated input handling per dimensionality (Gen/DimInput.lean, regenerated on every run from
src/voronoi/generator.rs and src/voronoi.rs): `Generator::new`, `Dimensionality::vector_is_valid` and the axis
normalisation block of BOTH builders equal their references (Model/Build.lean) for every scalar type — so also for `f64` —
the two builders normalise identically (C13), and the references are the functions the exact oracle uses
(`Oracle.projectGen`, `Oracle.normalise`), about which `Proofs/LowDim` proves that the result depends on the active
coordinates only (C08).
-/
import MVoro.Gen.DimInput
import MVoro.Model.Oracle
import MVoro.Drv.Parse  -- the `Scalar Rat` instance that the example at the end computes with
import MVoro.Proofs.ScalarReal
namespace MVoro.Obl
open MVoro MVoro.GeomHelpers

set_option linter.unusedSectionVars false

section generic
variable {α : Type} [Add α] [Sub α] [Mul α] [Div α] [Neg α] [NatCast α] [Scalar α]

theorem gen_generatorNew_eq (loc : V3 α) (d : Dim) : Gen.generatorNew loc d = Ref.activeLoc loc d := by
  cases d <;> rfl

theorem gen_vectorIsValid_eq (d : Dim) (v : V3 α) : Gen.vectorIsValid d v = Ref.vectorIsValid d v := by
  cases d <;> rfl

theorem gen_normaliseDirect_eq (a w : V3 α) (d : Dim) : Gen.normaliseDirect a w d = Ref.normalise a w d := by
  cases d <;> rfl

theorem gen_normaliseIntegrator_eq (a w : V3 α) (d : Dim) : Gen.normaliseIntegrator a w d = Ref.normalise a w d := by
  cases d <;> rfl

/-- C13 -/
theorem gen_normalise_routes_agree (a w : V3 α) (d : Dim) : Gen.normaliseDirect a w d = Gen.normaliseIntegrator a w d := by
  rw [gen_normaliseDirect_eq, gen_normaliseIntegrator_eq]

end generic

theorem ref_activeLoc_oracle (dim : Nat) (hd : dim = 1 ∨ dim = 2 ∨ dim = 3) (g : Q3) :
    Ref.activeLoc g (Dim.fromNat dim) = Oracle.projectGen dim g := by
  rcases hd with rfl | rfl | rfl <;> simp [Ref.activeLoc, Dim.fromNat, Oracle.projectGen, N]

theorem ref_normalise_oracle (dim : Nat) (hd : dim = 1 ∨ dim = 2 ∨ dim = 3) (a w : Q3) :
    Ref.normalise a w (Dim.fromNat dim) = Oracle.normalise dim a w := by
  rcases hd with rfl | rfl | rfl <;> simp [Ref.normalise, Dim.fromNat, Oracle.normalise, N] <;> norm_num

/-- C08: valid iff the unused components vanish -/
theorem vectorIsValid_iff (d : Dim) (v : V3 ℝ) :
    Ref.vectorIsValid d v = true ↔ (d = .OneD → v.y = 0 ∧ v.z = 0) ∧ (d = .TwoD → v.z = 0) := by
  cases d <;> simp [Ref.vectorIsValid, eqb_zero_iff, N]

/-- non-vacuity: garbage in the unused coordinates of a 1D input disappears -/
example : Gen.generatorNew (⟨3, 7, -2⟩ : V3 Rat) .OneD = ⟨3, 0, 0⟩ ∧
    Gen.normaliseDirect (⟨0, 5, 5⟩ : V3 Rat) ⟨2, 9, 9⟩ .OneD = (⟨0, -1/2, -1/2⟩, ⟨2, 1, 1⟩) := by
  constructor <;> simp [gen_generatorNew_eq, gen_normaliseDirect_eq, Ref.activeLoc, Ref.normalise, N] <;> norm_num

end MVoro.Obl
