/-
Obligations for the translated grid domain constants (Gen/Grid.lean, regenerated from
src/voronoi/boundary.rs on every run): with these constants every position the algorithm can
query is mapped strictly inside `[1, 2)`: with a margin of 1/16 on both sides when an axis is scaled by its own width, and of
`(pad - 1)/span · W/G` below under the shared grid width `G ≥ W` that the source uses.
The proofs use the constants only through the side conditions `gen_grid_constants_ok`, so that any other
*valid* choice still checks.
-/
import MVoro.Gen.Grid
import MVoro.Model.Grid
import MVoro.Proofs.Misc
import Mathlib.Tactic.Linarith
import Mathlib.Tactic.NormNum
import Mathlib.Algebra.Order.Field.Rat

namespace MVoro.Obl
open MVoro.Grid

/-- the side conditions on the constants: `(pad - 1)/span ≥ 1/16` and `(pad + 2)/span ≤ 15/16` keep the images of the
ends `A - W`, `A + 2W` of the queried range (`GridProofs.rescaleExactG_range`) a margin of `1/16` inside `[1, 2)` -/
theorem gen_grid_constants_ok :
    0 < Gen.gridSpan ∧ 1 / 16 ≤ (Gen.gridPad - 1) / Gen.gridSpan ∧ (Gen.gridPad + 2) / Gen.gridSpan ≤ 15 / 16 := by
  unfold Gen.gridSpan Gen.gridPad
  norm_num

/-- the queried positions `A - W ≤ x ≤ A + 2W`: `GridProofs.queried_positions` -/
theorem gen_grid_in_range (A W x : Rat) (hW : 0 < W) (hlo : A - W ≤ x) (hhi : x ≤ A + 2 * W) :
    1 + 1 / 16 ≤ rescaleExact Gen.gridPad Gen.gridSpan A W x ∧ rescaleExact Gen.gridPad Gen.gridSpan A W x ≤ 2 - 1 / 16 := by
  obtain ⟨hs, h1, h2⟩ := gen_grid_constants_ok
  have : _ ≤ rescaleExact Gen.gridPad Gen.gridSpan A W x ∧ rescaleExact Gen.gridPad Gen.gridSpan A W x ≤ _ :=
    GridProofs.rescaleExactG_range _ _ A W W x (mul_pos hs hW) hlo hhi
  rw [div_self hW.ne', mul_one, mul_one] at this
  exact ⟨(add_le_add_right h1 1).trans this.1, this.2.trans (le_of_le_of_eq (add_le_add_right h2 1) (by norm_num))⟩

theorem gen_gridG_in_range (A W G x : Rat) (hW : 0 < W) (hG : W ≤ G) (hlo : A - W ≤ x) (hhi : x ≤ A + 2 * W) :
    1 < rescaleExactG Gen.gridPad Gen.gridSpan A W G x ∧ rescaleExactG Gen.gridPad Gen.gridSpan A W G x ≤ 2 - 1 / 16 := by
  obtain ⟨hs, h1, h2⟩ := gen_grid_constants_ok
  have hG0 : 0 < G := hW.trans_le hG
  obtain ⟨l, u⟩ := GridProofs.rescaleExactG_range Gen.gridPad Gen.gridSpan A W G x (mul_pos hs hG0) hlo hhi
  have ht : 0 < W / G := div_pos hW hG0
  exact ⟨(lt_add_of_pos_right 1 (mul_pos (lt_of_lt_of_le (by norm_num) h1) ht)).trans_le l,
    u.trans (le_of_le_of_eq (add_le_add_right (mul_le_mul h2 ((div_le_one hG0).2 hG) ht.le (by norm_num)) 1) (by norm_num))⟩

/-- the source rescales all active axes with ONE grid width (the largest active extent), so that the map to the integer grid
is a similarity on the subspace the generators live in and the exact in-sphere test is the Euclidean one
(`InSphereProofs.inSphereDet_scale`, `inSphereDet_translate`, `inSphereDet_planar`); the per-axis rescaling of the pinned tree
fails this (`InSphereWitness.anisotropic_scaling_flips_sign`) -/
theorem gen_grid_shared_scale : Gen.gridSharedScale = true := by decide

/-- the mask keeps exactly the 52 mantissa bits -/
theorem gen_mantissa_mask : Gen.mantissaMask = 2 ^ 52 - 1 := by decide

end MVoro.Obl
