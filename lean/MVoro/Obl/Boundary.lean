/-
Obligations for the translated `ConvexCell::compute_boundary` (Gen/Boundary.lean, regenerated on every run from
src/voronoi/convex_cell.rs by tools/extract3.py: the `for` over the removed vertices, the inner `loop` with its assertion,
the `match` on `try_extend`, the conditional `swap`, the `break`).  With enough fuel for the inner `loop` (one pass per
removed vertex suffices) the generated function IS `Clip.computeBoundary` of the hand-written model, the function
`Proofs/CycleBoundary` is about.  `Gen.Cycle.*` are replaced by the model's cycle through `Obl/Cycle`.
-/
import MVoro.Gen.Boundary
import MVoro.Obl.Cycle
import MVoro.Model.Clip
namespace MVoro.Obl
open MVoro

variable {V : Type}

section
variable {σ : Type} {lo hi : Nat} (f : Nat → σ → Option σ) (s : σ)

theorem loopRangeOpt_of_le (h : hi ≤ lo) : loopRangeOpt lo hi f s = some s := by
  rw [loopRangeOpt, Nat.sub_eq_zero_of_le h]
  rfl

/-- a `for` loop whose body may panic, unrolled once -/
theorem loopRangeOpt_of_lt (h : lo < hi) : loopRangeOpt lo hi f s = (f lo s).bind (loopRangeOpt (lo + 1) hi f) := by
  rw [loopRangeOpt, ← Nat.sub_add_cancel (Nat.sub_pos_of_lt h), List.range'_succ, List.foldlM_cons]
  rfl

end

section
variable (dual : V → Dual)

theorem boundary_loop1_step (i : Nat) (c : Cycle) (vs : Array V) (idx : Nat) :
    Gen.computeBoundary_loop1 dual i (c, vs, idx) =
      if h : idx < vs.size then
        match Cycle.tryExtend c (dual vs[idx]).a (dual vs[idx]).b (dual vs[idx]).c with
        | some c' => .done (c', (if idx > i then vs.swapIfInBounds i idx else vs), idx)
        | none => .next (c, vs, idx + 1)
      else .panic := by
  unfold Gen.computeBoundary_loop1
  by_cases h : idx < vs.size
  · simp only [h, decide_true, if_true, dite_true, gen_cycle_tryExtend_eq]
    cases Cycle.tryExtend c (dual vs[idx]).a (dual vs[idx]).b (dual vs[idx]).c with
    | some c' => by_cases hi : idx > i <;> simp [hi]
    | none => rfl
  · simp [h]

/-- the inner `loop` = the model's search `findExt` with the same fuel -/
theorem boundary_loop1 (i fuel : Nat) (c : Cycle) (vs : Array V) (idx : Nat) :
    MVoro.loopFuel fuel (Gen.computeBoundary_loop1 dual i) (c, vs, idx)
      = (Clip.findExt dual c vs fuel idx).map fun r => (r.2, (if r.1 > i then vs.swapIfInBounds i r.1 else vs), r.1) := by
  fun_induction Clip.findExt dual c vs fuel idx with
  | case1 => rfl
  | case2 fuel idx hlt d c' hc =>
    rw [MVoro.loopFuel, boundary_loop1_step, dif_pos hlt, show Cycle.tryExtend c _ _ _ = some c' from hc]
    rfl
  | case3 fuel idx hlt d hc ih =>
    rw [MVoro.loopFuel, boundary_loop1_step, dif_pos hlt, show Cycle.tryExtend c _ _ _ = none from hc]
    exact ih
  | case4 fuel idx hge =>
    rw [MVoro.loopFuel, boundary_loop1_step, dif_neg hge]
    rfl

/-- `findExt` does not look past the end of the array: fuel beyond `vs.size - idx` is not used -/
theorem findExt_fuel (c : Cycle) (vs : Array V) : ∀ (fuel idx : Nat), vs.size - idx ≤ fuel →
    Clip.findExt dual c vs fuel idx = Clip.findExt dual c vs (vs.size - idx) idx := by
  intro fuel
  induction fuel with
  | zero =>
    intro idx h
    rw [Nat.le_zero.1 h]
  | succ fuel ih =>
    intro idx h
    by_cases hlt : idx < vs.size
    · rw [show vs.size - idx = vs.size - (idx + 1) + 1 by omega, Clip.findExt, Clip.findExt, dif_pos hlt, dif_pos hlt]
      simp only [ih (idx + 1) (by omega)]
    · simp [Clip.findExt, hlt, Nat.sub_eq_zero_of_le (Nat.le_of_not_lt hlt)]

/-- one pass of the `for` loop = one step of the model's outer loop -/
theorem boundary_loop2 (fuel i : Nat) (c : Cycle) (vs : Array V) (hf : vs.size - i ≤ fuel) :
    Gen.computeBoundary_loop2 dual fuel i (c, vs)
      = (Clip.findExt dual c vs (vs.size - i) i).map fun r => (r.2, if r.1 > i then vs.swapIfInBounds i r.1 else vs) := by
  unfold Gen.computeBoundary_loop2
  simp only [boundary_loop1, findExt_fuel dual c vs fuel i hf]
  cases Clip.findExt dual c vs (vs.size - i) i <;> rfl

/-- the `for` loop over `i .. vs.size` = the model's `boundaryLoop` (any fuel `n` that covers the range) -/
theorem boundary_for (fuel : Nat) {n i : Nat} {c : Cycle} {vs : Array V} (hf : vs.size ≤ fuel) (hn : vs.size - i ≤ n) :
    loopRangeOpt i vs.size (Gen.computeBoundary_loop2 dual fuel) (c, vs) = Clip.boundaryLoop dual n i c vs := by
  fun_induction Clip.boundaryLoop dual n i c vs with
  | case1 => exact loopRangeOpt_of_le _ _ (Nat.le_of_sub_eq_zero (Nat.le_zero.1 hn))
  | case2 n i c vs hlt hnone =>
    rw [loopRangeOpt_of_lt _ _ hlt, boundary_loop2 dual fuel i c vs (Nat.le_trans (Nat.sub_le _ _) hf), hnone]
    rfl
  | case3 n i c vs hlt idx c' hsome ih =>
    have hs : (if idx > i then vs.swapIfInBounds i idx else vs).size = vs.size := by split <;> simp
    rw [loopRangeOpt_of_lt _ _ hlt, boundary_loop2 dual fuel i c vs (Nat.le_trans (Nat.sub_le _ _) hf), hsome, ← hs]
    exact ih (hs ▸ hf) (by omega)
  | case4 n i c vs hge => exact loopRangeOpt_of_le _ _ (Nat.le_of_not_lt hge)

end

/-- **`compute_boundary` = `Clip.computeBoundary`** whenever the inner loop is given at least one pass per vertex -/
theorem gen_computeBoundary_eq (dual : V → Dual) (fuel : Nat) (c : Cycle) (vs : Array V) (hf : vs.size ≤ fuel) :
    Gen.computeBoundary dual fuel c vs = Clip.computeBoundary dual c vs := by
  unfold Gen.computeBoundary Clip.computeBoundary
  by_cases h : 0 < vs.size
  · simp only [h, dite_true, gen_cycle_init_eq]
    rw [boundary_for dual fuel hf (Nat.sub_le _ _)]
    cases Clip.boundaryLoop dual vs.size 1 (c.init (dual vs[0]).a (dual vs[0]).b (dual vs[0]).c) vs <;> rfl
  · simp [h]

/-- non-vacuity: the two removed corners `(2,5,0)`, `(5,3,0)` of the initial box, on the generated code -/
example : (Gen.computeBoundary id 2 (Cycle.new 7) #[(⟨2, 5, 0⟩ : Dual), ⟨5, 3, 0⟩]).map (fun r => r.1.closedWalk)
    = some [2, 5, 3, 0, 2] := by decide +kernel

end MVoro.Obl
