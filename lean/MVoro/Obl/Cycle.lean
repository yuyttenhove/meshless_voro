/-
Obligations for the translated `SimpleCycle` (Gen/Cycle.lean, regenerated on every run from src/simple_cycle.rs by
tools/extract3.py, statement by statement): every method of the Rust type computes — for every cycle state and every
argument — the corresponding function of the hand-written array model `Model/Cycle`, about which
`Proofs/CycleBoundary` proves C18.
-/
import MVoro.Gen.Cycle
import MVoro.Model.Cycle
namespace MVoro.Obl
open MVoro

theorem gen_cycle_new_eq (capacity : Nat) : Gen.Cycle.new capacity = Cycle.new capacity := rfl

theorem gen_cycle_contains_eq (c : Cycle) (i : Nat) : Gen.Cycle.contains c i = Cycle.contains c i := rfl

theorem gen_cycle_grow_eq (c : Cycle) : Gen.Cycle.grow c = Cycle.grow c := rfl

/-- the reset loop of `init` -/
theorem loop_reset (n : Nat) : ∀ (lo : Nat) (c : Cycle) (cur : Nat),
    ((List.range' lo n).foldl (fun (s : Cycle × Nat) (_ : Nat) => (Cycle.set s.1 s.2 s.2, Cycle.get s.1 s.2)) (c, cur)).1
      = Cycle.resetWalk n c cur := by
  induction n with
  | zero => intro lo c cur; rfl
  | succ n ih =>
    intro lo c cur
    simp only [List.range'_succ, List.foldl_cons, Cycle.resetWalk]
    exact ih _ _ _

theorem gen_cycle_init_eq (c : Cycle) (a b d : Nat) : Gen.Cycle.init c a b d = Cycle.init c a b d := by
  unfold Gen.Cycle.init Cycle.init MVoro.loopRange
  simp only [Nat.sub_zero]
  rw [loop_reset]

/-- guards and results of the two cases of one rotation `(ti, tj, tk)` of `try_extend`, named so that the generated and the
hand-written function can be compared branch by branch -/
def insGuard (c : Cycle) (ti tj tk : Nat) : Bool := !c.contains ti && c.contains tj && c.contains tk && c.get tk == tj
def delGuard (c : Cycle) (ti tj tk : Nat) : Bool :=
  c.contains ti && c.contains tj && c.contains tk && c.get tk == tj && c.get tj == ti
def insRes (c : Cycle) (ti tj tk : Nat) : Cycle :=
  { (c.set tk ti).set ti tj with len := ((c.set tk ti).set ti tj).len + 1 }
def delRes (c : Cycle) (ti tj tk : Nat) : Cycle :=
  let c := (c.set tk ti).set tj tj
  let c := if c.start == tj then { c with start := ti } else c
  { c with len := c.len - 1 }

theorem tryRot_eq (c : Cycle) (ti tj tk : Nat) : Cycle.tryRot c ti tj tk =
    if insGuard c ti tj tk then some (insRes c ti tj tk)
    else if delGuard c ti tj tk then some (delRes c ti tj tk) else none := rfl

/-- the unrolled `for i in 0..3`, with `tri[..]`, `contained[..]` and `(i + 1) % 3` evaluated -/
theorem gen_tryExtend_unrolled (c : Cycle) (a b d : Nat) : Gen.Cycle.tryExtend c a b d =
    if insGuard c a b d then some (insRes c a b d)
    else if delGuard c a b d then some (delRes c a b d)
    else if insGuard c b d a then some (insRes c b d a)
    else if delGuard c b d a then some (delRes c b d a)
    else Cycle.tryRot c d a b := by
  unfold Gen.Cycle.tryExtend
  rfl

theorem gen_cycle_tryExtend_eq (c : Cycle) (a b d : Nat) : Gen.Cycle.tryExtend c a b d = Cycle.tryExtend c a b d := by
  rw [gen_tryExtend_unrolled, Cycle.tryExtend, tryRot_eq c a b d, tryRot_eq c b d a]
  by_cases h1 : insGuard c a b d = true
  · rw [if_pos h1, if_pos h1]
  rw [if_neg h1, if_neg h1]
  by_cases h2 : delGuard c a b d = true
  · rw [if_pos h2, if_pos h2]
  rw [if_neg h2, if_neg h2]
  by_cases h3 : insGuard c b d a = true
  · rw [if_pos h3, if_pos h3]
  rw [if_neg h3, if_neg h3]
  by_cases h4 : delGuard c b d a = true
  · rw [if_pos h4, if_pos h4]
  rw [if_neg h4, if_neg h4]

/-- `iter()` starts at `start`, `next()` yields the current entry and moves to its successor; hence `iter().take(n)` is the
model's `walk n` from `start` -/
def takeIter : Nat → CycleIter → List Nat
  | 0, _ => []
  | n + 1, it => match (Gen.Cycle.iterNext it).1 with
    | some x => x :: takeIter n (Gen.Cycle.iterNext it).2
    | none => []

theorem takeIter_eq_walk (n : Nat) : ∀ (c : Cycle) (cur : Nat), takeIter n ⟨c, cur⟩ = Cycle.walk n c cur := by
  induction n with
  | zero =>
    intro c cur
    rfl
  | succ n ih =>
    intro c cur
    simp only [takeIter, Gen.Cycle.iterNext, Cycle.walk]
    rw [ih]

/-- `self.boundary.iter().take(self.boundary.len + 1)` = `Cycle.closedWalk` -/
theorem gen_cycle_iter_take_eq (c : Cycle) : takeIter (c.len + 1) (Gen.Cycle.iter c) = Cycle.closedWalk c := by
  unfold Gen.Cycle.iter Cycle.closedWalk
  exact takeIter_eq_walk _ _ _

/-- non-vacuity: the unit test of simple_cycle.rs, run on the generated definitions -/
example : (do
    let c := Gen.Cycle.init (Gen.Cycle.new 7) 2 4 1
    let c ← Gen.Cycle.tryExtend c 1 5 2
    let c ← Gen.Cycle.tryExtend c 5 1 3
    let c ← Gen.Cycle.tryExtend c 5 3 6
    let c ← Gen.Cycle.tryExtend c 4 3 1
    let c ← Gen.Cycle.tryExtend c 3 4 6
    pure (c.len, takeIter c.len (Gen.Cycle.iter c))) = some (4, [2, 4, 6, 5]) := by decide +kernel

end MVoro.Obl
