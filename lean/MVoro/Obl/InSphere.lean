/-
The translator output `Gen.*` (regenerated from src/geometry.rs on every run) against the hand-written reference `Ref.*`.
The determinant is compared semantically (`ring`), not by `rfl`, so that a behaviour-preserving rewrite of the source keeps
the obligation.
-/
import MVoro.Gen.InSphere
import MVoro.Model.InSphere
import Mathlib.Tactic.Ring

namespace MVoro.Obl
open MVoro

private theorem exists_offset (a b : I3 Int) : ∃ x : I3 Int, b = ⟨a.c0 + x.c0, a.c1 + x.c1, a.c2 + x.c2⟩ :=
  ⟨⟨b.c0 - a.c0, b.c1 - a.c1, b.c2 - a.c2⟩, by simp only [add_sub_cancel]⟩

theorem gen_inSphereDet_eq (a b c d v : I3 Int) :
    Gen.inSphereDet a b c d v = Ref.inSphereDet a b c d v := by
  -- in the offsets from `a` as variables the twelve differences are atoms for `ring`, whatever shape the source gives the rest
  obtain ⟨b, rfl⟩ := exists_offset a b
  obtain ⟨c, rfl⟩ := exists_offset a c
  obtain ⟨d, rfl⟩ := exists_offset a d
  obtain ⟨v, rfl⟩ := exists_offset a v
  simp only [Gen.inSphereDet, Ref.inSphereDet, Ref.bigInt, Ref.det3, Ref.det2, Id.run, pure, bind, zero_add, add_sub_cancel_left]
  ring

private theorem cmp_sign (d : Int) :
    (match compare d 0 with | .lt => (-1 : Int) | .eq => 0 | .gt => 1) = Int.sign d := by
  rcases Int.lt_trichotomy d 0 with h | h | h
  · have : compare d 0 = .lt := by simp [Int.compare_eq_lt, h]
    rw [this]; simp [Int.sign_eq_neg_one_of_neg h]
  · subst h; simp
  · have : compare d 0 = .gt := by simp [Int.compare_eq_gt, h]
    rw [this]; simp [Int.sign_eq_one_of_pos h]

/-- one arm per big-integer backend -/
theorem gen_signExtract_eq (d : Int) :
    Gen.signExtract_ibig d = Int.sign d ∧ Gen.signExtract_dashu d = Int.sign d ∧
    Gen.signExtract_rug d = Int.sign d ∧ Gen.signExtract_malachite d = Int.sign d ∧
    Gen.signExtract_num_bigint d = Int.sign d := by
  refine ⟨rfl, rfl, rfl, ?_, ?_⟩
  · simp only [Gen.signExtract_malachite]; exact cmp_sign d
  · simp only [Gen.signExtract_num_bigint]; exact cmp_sign d

end MVoro.Obl
