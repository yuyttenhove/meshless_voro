/-
Obligations for the translated body of the clipping loop of `ConvexCell::build` (Gen/BuildStep.lean, regenerated on every
run from src/voronoi/convex_cell.rs): generated = reference, and over the reals

* the plane built in one round is the bisector of the generator and the candidate, with the unit normal pointing to the
  generator, and "kept by the plane" = "at least as close to the generator as to the candidate" (`buildStep_halfspace`,
  the link between the code and `VorSet.mem_HS_iff` / `run_eq_voronoi` of C01);
* the loop stops exactly when the candidate is farther than the safety radius (`buildStep_none_iff`, C16);
* the first candidate is consumed unclipped and must be the generator itself; the new half space is tagged with the
  candidate's index and shift.

`gen_buildStep_eq` ends in `split <;> rfl` as a fall-back for regenerated code whose early return does not reduce by the
unfolding alone; on the Gen file as it stands the unfolding closes the goal, hence the linters for tactics never executed (and for
the simp arguments and section variables that only the fall-back uses) are off.
-/
import MVoro.Gen.BuildStep
import MVoro.Proofs.ScalarReal
namespace MVoro.Obl
open MVoro MVoro.GeomHelpers

set_option linter.unusedSimpArgs false
set_option linter.unusedSectionVars false
set_option linter.unusedTactic false
set_option linter.unreachableTactic false

theorem gen_firstCandidateConsumed : Gen.firstCandidateConsumed = true := by decide
theorem gen_buildStepTagsNeighbour : Gen.buildStepTagsNeighbour = true := by decide

section generic
variable {α : Type} [Add α] [Sub α] [Mul α] [Div α] [Neg α] [NatCast α] [Scalar α]

theorem gen_buildStep_eq (cell : CellRec α) (g : V3 α) (s : Option (V3 α)) :
    Gen.buildStep cell g s = Ref.buildStep cell g s := by
  unfold Gen.buildStep Ref.buildStep Ref.ngbLoc
  cases s <;> simp only [Id.run, bind, pure] <;> split <;> rfl

end generic

theorem buildStep_none_iff (cell : CellRec ℝ) (g : V3 ℝ) (s : Option (V3 ℝ)) :
    Ref.buildStep cell g s = none ↔ cell.safety_radius < V3.length (cell.loc - Ref.ngbLoc g s) := by
  simp only [Ref.buildStep]
  split <;> simp_all

theorem buildStep_halfspace (cell : CellRec ℝ) (g : V3 ℝ) (s : Option (V3 ℝ)) (n p : V3 ℝ)
    (h : Ref.buildStep cell g s = some (n, p)) (hne : cell.loc ≠ Ref.ngbLoc g s) :
    V3.norm2 n = 1 ∧
    p = V3.smul (1 / 2) (cell.loc + Ref.ngbLoc g s) ∧
    (∀ x : V3 ℝ, 0 ≤ V3.dot n x - V3.dot n p ↔ V3.distance2 x cell.loc ≤ V3.distance2 x (Ref.ngbLoc g s)) := by
  simp only [Ref.buildStep, Option.ite_none_left_eq_some, Option.some.injEq, Prod.mk.injEq] at h
  obtain ⟨-, rfl, rfl⟩ := h
  have hpos := V3.norm2_pos_of_ne hne
  have hL : 0 < V3.length (cell.loc - Ref.ngbLoc g s) := Real.sqrt_pos.mpr hpos
  have hN : (N ℝ 1) / (N ℝ 2) = (1 / 2 : ℝ) := by simp only [Nat.cast_one, Nat.cast_ofNat]
  refine ⟨?_, by rw [hN], fun x => ?_⟩
  · rw [V3.norm2, V3.dot_divs_left, V3.dot_divs_right, div_div, ← sq, length_sq]
    exact div_self hpos.ne'
  · -- `n · x - n · p = (|x - q|² - |x - g|²) / (2 L)` by the bisector identity
    rw [hN, V3.dot_divs_left, V3.dot_divs_left, ← sub_div, ← sub_nonneg (b := V3.distance2 x cell.loc),
      V3.distance2_sub_distance2, le_div_iff₀ hL, zero_mul]
    exact (mul_nonneg_iff_of_pos_left (by norm_num)).symm

/-- non-vacuity: the round does clip -/
example : ∃ n p, Ref.buildStep (⟨⟨0, 0, 0⟩, 10⟩ : CellRec ℝ) ⟨2, 0, 0⟩ none = some (n, p) := by
  have h : Ref.buildStep (⟨⟨0, 0, 0⟩, 10⟩ : CellRec ℝ) ⟨2, 0, 0⟩ none ≠ none := by
    rw [Ne, buildStep_none_iff, not_lt, length_def, Real.sqrt_le_iff]
    norm_num [Ref.ngbLoc, norm2_def]
  obtain ⟨⟨n, p⟩, hv⟩ := Option.ne_none_iff_exists'.mp h
  exact ⟨n, p, hv⟩

end MVoro.Obl
