import MVoro.Model.Num
import MVoro.Model.InSphere
import MVoro.Model.Cycle
import MVoro.Model.Clip
import MVoro.Model.Tess
import MVoro.Model.Geom
import MVoro.Model.Cell
import MVoro.Model.Decomp
import MVoro.Model.Oracle
import MVoro.Model.Cand
import MVoro.Model.Grid
import MVoro.Model.Sched
import MVoro.Model.TypeState
import MVoro.Model.Knn
import MVoro.Model.Build
import MVoro.Model.Loop
import MVoro.Proofs.VorSet
import MVoro.Proofs.Periodic
import MVoro.Proofs.TessBook
import MVoro.Proofs.CycleBoundary
import MVoro.Proofs.CycleModel
import MVoro.Proofs.GeomHelpers
import MVoro.Proofs.Surface
import MVoro.Proofs.Misc
import MVoro.Proofs.BestFirst
import MVoro.Proofs.LowDim
import MVoro.Proofs.KnnProofs
import MVoro.Proofs.SphereProofs
import MVoro.Proofs.MEBProofs
import MVoro.Proofs.KnnCorrect
import MVoro.Proofs.Euler
import MVoro.Proofs.MeasureTiling
import MVoro.Proofs.MeasurePeriodic
import MVoro.Obl.Space
import MVoro.Obl.Par
import MVoro.Obl.Geom
import MVoro.Obl.HalfSpace
import MVoro.Props.C09
import MVoro.Props.C11
import MVoro.Props.C14
import MVoro.Proofs.FacesProofs
import MVoro.Props.C15
import MVoro.Props.C17
import MVoro.Props.C20
import MVoro.Obl.InSphere
import MVoro.Obl.Face
import MVoro.Obl.Grid
import MVoro.Obl.DimInput
import MVoro.Obl.VertexRadius
import MVoro.Obl.CellInit
import MVoro.Obl.BuildStep
import MVoro.Obl.ClipVertex
import MVoro.Obl.RightLoc
import MVoro.Obl.NN
import MVoro.Obl.Integrals
import MVoro.Obl.Rules
import MVoro.Obl.Cycle
import MVoro.Obl.Boundary
import MVoro.Proofs.Orientation
import MVoro.Proofs.ClipFeasible
import MVoro.Proofs.StarInvariant
import MVoro.Proofs.StarReach
import MVoro.Proofs.CycleWalk
import MVoro.Proofs.ClipModel
import MVoro.Proofs.EulerClip
import MVoro.Proofs.LinkClip
import MVoro.Proofs.EulerReach
import MVoro.Proofs.ReachAll
import MVoro.Proofs.ModelReach
import MVoro.Proofs.ClipOrder
import MVoro.Proofs.FaceCycle
import MVoro.Proofs.SortCycle
import MVoro.Proofs.EulerLists
import MVoro.Proofs.GridWF
import MVoro.Proofs.RingWF
import MVoro.Proofs.KnnFull
import MVoro.Props.C01
import MVoro.Props.C02
import MVoro.Props.C03
import MVoro.Props.C04
import MVoro.Props.C05
import MVoro.Props.C06
import MVoro.Props.C07
import MVoro.Props.C08
import MVoro.Props.C10
import MVoro.Props.C12
import MVoro.Props.C13
import MVoro.Props.C16
import MVoro.Props.C18
import MVoro.Props.C19
